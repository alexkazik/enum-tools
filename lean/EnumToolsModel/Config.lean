/-
The macro-time program, part 2: the attribute engine (`parser/feature.rs`, `parser/params.rs`),
feature flags and modes, and the rule engine that interprets the dependency propagation.
The *data* (catalogue of features, propagation rules) lives in `Generated/*.lean`, which the
translator regenerates from `/repo/src` on every run.
-/
import EnumToolsModel.Parse
namespace ET

/-- every feature struct of `generator/features.rs`, plus the `with_offset` bit of `table_range` -/
inductive Flag where
  | asStr | debug | display | fromStrFn | fromStrTrait | intoFn | intoStr | intoTrait | iter
  | maxC | minC | names | nextBack | next | range | tableEnum | tableName | tableRange
  | tableRangeOfs | tryFromFn | tryFromTrait
deriving Repr, DecidableEq, Inhabited

def Flag.all : List Flag :=
  [.asStr, .debug, .display, .fromStrFn, .fromStrTrait, .intoFn, .intoStr, .intoTrait, .iter,
   .maxC, .minC, .names, .nextBack, .next, .range, .tableEnum, .tableName, .tableRange,
   .tableRangeOfs, .tryFromFn, .tryFromTrait]

inductive Mode3 | auto | «match» | table
deriving Repr, DecidableEq, Inhabited

inductive IterMode | auto | range | nextAndBack | table | tableInline
deriving Repr, DecidableEq, Inhabited

structure Modes where
  asStr : Mode3 := .auto
  fromStrFn : Mode3 := .auto
  fromStrTrait : Mode3 := .auto
  iter : IterMode := .auto
deriving Repr, DecidableEq, Inhabited

def Mode3.all : List Mode3 := [.auto, .match, .table]
def IterMode.all : List IterMode := [.auto, .range, .nextAndBack, .table, .tableInline]
def Modes.all : List Modes :=
  Mode3.all.flatMap fun a => Mode3.all.flatMap fun b => Mode3.all.flatMap fun c =>
    IterMode.all.map fun d => ⟨a, b, c, d⟩

/-- the enum's shape as far as the propagation is concerned -/
structure Shape where
  gapless : Bool
  numValues : Nat := 0
  sizeGuess : Nat := 0
deriving Repr, DecidableEq, Inhabited

/-- guard atoms over modes and shape (never over flags: that is checked by the translator) -/
inductive Atom where
  | gapless | holes
  | asStrIs (m : Mode3) | fromStrFnIs (m : Mode3) | fromStrTraitIs (m : Mode3)
  | iterIn (ms : List IterMode)
deriving Repr, DecidableEq, Inhabited

def Atom.eval (m : Modes) (gapless : Bool) : Atom → Bool
  | .gapless => gapless
  | .holes => !gapless
  | .asStrIs x => m.asStr == x
  | .fromStrFnIs x => m.fromStrFn == x
  | .fromStrTraitIs x => m.fromStrTrait == x
  | .iterIn xs => xs.contains m.iter

/-- "if `src` is enabled and the guard holds, enable `sets`" -/
structure Rule where
  src : Flag
  guard : List Atom
  sets : List Flag
deriving Repr, DecidableEq, Inhabited

/-- "if `src` is enabled, the guard holds and (when given) `unlessFlag` is not enabled: `abort!`" -/
structure AbortRule where
  src : Flag
  guard : List Atom
  unlessFlag : Option Flag
  err : Err
deriving Repr, DecidableEq, Inhabited

abbrev Flags := List Flag

def guardHolds (m : Modes) (gapless : Bool) (g : List Atom) : Bool := g.all (Atom.eval m gapless)

def applyRule (m : Modes) (gapless : Bool) (fl : Flags) (r : Rule) : Flags :=
  if fl.contains r.src && guardHolds m gapless r.guard then fl ++ r.sets.filter (fun f => !fl.contains f) else fl

def runRules (rules : List Rule) (m : Modes) (gapless : Bool) (fl : Flags) : Flags :=
  rules.foldl (applyRule m gapless) fl

def abortFires (m : Modes) (gapless : Bool) (fl : Flags) (a : AbortRule) : Bool :=
  fl.contains a.src && guardHolds m gapless a.guard &&
    (match a.unlessFlag with | none => true | some f => !fl.contains f)

/-! ### visibility / names -/

inductive Vis | inherited | pubCrate | pub
deriving Repr, DecidableEq, Inhabited

/-- what `parse` of one feature yields beyond `enabled` and `mode` -/
structure ItemCfg where
  /-- `none` = the enum's own visibility -/
  vis : Option Vis
  name : String
  structName : Option String := none
deriving Repr, DecidableEq, Inhabited

inductive ModeKind | none | m3 | iter
deriving Repr, DecidableEq, Inhabited

/-- one row of the catalogue: how `FeatureX::parse` treats its parameters -/
structure FeatSpec where
  key : String
  flag : Flag
  hasVisName : Bool
  hiddenName : String
  structKey : Option String
  modeKind : ModeKind
  /-- accepted mode strings, in the order of the `match` -/
  modes : List String
deriving Repr, DecidableEq, Inhabited

abbrev ParamMap := List (String × Option LitV)
abbrev FeatureMap := List (String × ParamMap)

def smapInsert {β} (k : String) (v : β) : List (String × β) → List (String × β) × Bool
  | [] => ([(k, v)], false)
  | (k', v') :: rest =>
    if k' = k then ((k, v) :: rest, true)
    else let (r, b) := smapInsert k v rest; ((k', v') :: r, b)

def smapRemove {β} (k : String) : List (String × β) → Option β × List (String × β)
  | [] => (none, [])
  | (k', v') :: rest =>
    if k' = k then (some v', rest)
    else let (r, l) := smapRemove k rest; (r, (k', v') :: l)

/-- the nested loop of `FeatureParser::parse` for one `feature(p, q = "..")`; `none` = abort -/
def parseParams : ParamMap → List Err → List Param → Option (ParamMap × List Err)
  | pm, errs, [] => some (pm, errs)
  | pm, errs, .flag (.simple n) :: rest =>
    let (pm, dup) := smapInsert n none pm
    parseParams pm (if dup then errs ++ [.duplicateParameter] else errs) rest
  | pm, errs, .nameLit (.simple n) l :: rest =>
    let (pm, dup) := smapInsert n (some l) pm
    parseParams pm (if dup then errs ++ [.duplicateParameter] else errs) rest
  | _, _, .flag .complex :: _ => none
  | _, _, .nameLit .complex _ :: _ => none
  | pm, errs, .other :: rest => parseParams pm (errs ++ [.unsupportedAttributeType]) rest

/-- `FeatureParser::parse` for the items of one attribute; `none` = abort -/
def parseItems : FeatureMap → List Err → List CfgItem → Option (FeatureMap × List Err)
  | fm, errs, [] => some (fm, errs)
  | fm, errs, .path (.simple n) :: rest =>
    let (fm, dup) := smapInsert n [] fm
    parseItems fm (if dup then errs ++ [.duplicateFeature] else errs) rest
  | _, _, .path .complex :: _ => none
  | _, _, .list _ none :: _ => none
  | _, _, .list .complex (some _) :: _ => none
  | fm, errs, .list (.simple n) (some ps) :: rest =>
    match parseParams [] errs ps with
    | none => none
    | some (pm, errs) =>
      let (fm, dup) := smapInsert n pm fm
      parseItems fm (if dup then errs ++ [.duplicateFeature] else errs) rest
  | fm, errs, .other :: rest => parseItems fm (errs ++ [.unsupportedAttributeType]) rest

/-- result of `parse_attrs` -/
structure AttrsOut where
  repr : Option String := none
  fm : FeatureMap := []
  errs : List Err := []
deriving Repr, Inhabited

/-- `parser/attr.rs`; `.error` = abort -/
def parseAttrs : AttrsOut → List EAttr → Except Err AttrsOut
  | st, [] => .ok st
  | st, .foreign :: rest => parseAttrs st rest
  | st, .repr a :: rest =>
    match st.repr with
    | some _ => .error .duplicateRepr
    | none => match a with
      | .ident s => parseAttrs { st with repr := some s } rest
      | .other => .error .metaParse
  | _, .enumTools none :: _ => .error .metaParse
  | st, .enumTools (some items) :: rest =>
    match parseItems st.fm st.errs items with
    | none => .error .unsupportedPath
    | some (fm, errs) => parseAttrs { st with fm := fm, errs := errs } rest
  | st, .enumToolsNotList :: rest => parseAttrs { st with errs := st.errs ++ [.unsupportedAttributeType] } rest

/-- `Params::get_vis_name`'s `vis` half -/
def getVis (pm : ParamMap) : Option Vis × ParamMap × List Err :=
  match smapRemove "vis" pm with
  | (none, pm) => (none, pm, [])
  | (some (some (.str "")), pm) => (some .inherited, pm, [])
  | (some (some (.str "pub(crate)")), pm) => (some .pubCrate, pm, [])
  | (some (some (.str "pub")), pm) => (some .pub, pm, [])
  | (some (some (.str _)), pm) => (none, pm, [.unsupportedVisibility])
  | (some _, pm) => (none, pm, [.expectedLiteral])

/-- `Params::get_str_opt` -/
def getStrOpt (key : String) (pm : ParamMap) : Option String × ParamMap × List Err :=
  match smapRemove key pm with
  | (none, pm) => (none, pm, [])
  | (some (some (.str s)), pm) => (some s, pm, [])
  | (some _, pm) => (none, pm, [.expectedLiteral])

/-- `Params::get_bool` -/
def getBool (key : String) (pm : ParamMap) : Bool × ParamMap × List Err :=
  match smapRemove key pm with
  | (none, pm) => (false, pm, [])
  | (some none, pm) => (true, pm, [])
  | (some (some _), pm) => (false, pm, [.unexpectedLiteral])

/-- what one `FeatureX::parse` returns -/
structure FeatOut where
  enabled : Bool
  item : ItemCfg
  /-- the mode string after defaulting (`"auto"`), when the feature has modes and it was valid -/
  mode : Option String := none
deriving Repr, DecidableEq, Inhabited

/-- `params.get_vis_name(key)` when the feature has a name and a visibility -/
def stepVisName (spec : FeatSpec) (pm : ParamMap) : Option Vis × String × ParamMap × List Err :=
  if spec.hasVisName then
    let r1 := getVis pm
    let r2 := getStrOpt "name" r1.2.1
    (r1.1, r2.1.getD spec.key, r2.2.1, r1.2.2 ++ r2.2.2)
  else (none, spec.key, pm, [])

/-- `params.get_str_opt("struct_name")` for the iterator features -/
def stepStruct (spec : FeatSpec) (pm : ParamMap) : Option String × ParamMap × List Err :=
  match spec.structKey with
  | some k => getStrOpt k pm
  | none => (none, pm, [])

/-- the `match params.get_str_opt("mode").unwrap_or("auto") { … _ => emit_error!("invalid mode") }` -/
def stepMode (spec : FeatSpec) (pm : ParamMap) : Option String × ParamMap × List Err :=
  match spec.modeKind with
  | .none => (none, pm, [])
  | _ =>
    let r := getStrOpt "mode" pm
    let m := r.1.getD "auto"
    if spec.modes.contains m then (some m, r.2.1, r.2.2) else (some "auto", r.2.1, r.2.2 ++ [Err.invalidMode])

/-- `params.finish(..)`: every parameter nobody asked for is an error -/
def finishParams (pm : ParamMap) : List Err := pm.map (fun _ => Err.unknownParameter)

/-- generic `FeatureX::parse` driven by its catalogue row -/
def parseFeature (spec : FeatSpec) (fm : FeatureMap) : FeatOut × FeatureMap × List Err :=
  match smapRemove spec.key fm with
  | (none, fm) =>
    ({ enabled := false, item := { vis := some .inherited, name := spec.hiddenName } }, fm, [])
  | (some pm, fm) =>
    let r1 := stepVisName spec pm
    let r2 := stepStruct spec r1.2.2.1
    let r3 := stepMode spec r2.2.1
    ({ enabled := true, item := { vis := r1.1, name := r1.2.1, structName := r2.1 }, mode := r3.1 },
      fm, r1.2.2.2 ++ r2.2.2 ++ r3.2.2 ++ finishParams r3.2.1)

/-- `FeatureSorted::parse` -/
def parseSorted (fm : FeatureMap) : Sorted × FeatureMap × List Err :=
  match smapRemove "sorted" fm with
  | (none, fm) => ({}, fm, [])
  | (some pm, fm) =>
    let (n, pm, e1) := getBool "name" pm
    let (v, pm, e2) := getBool "value" pm
    ({ name := n, value := v }, fm, e1 ++ e2 ++ pm.map (fun _ => Err.unknownParameter))

def mode3OfString : String → Mode3
  | "match" => .match
  | "table" => .table
  | _ => .auto

def iterModeOfString : String → IterMode
  | "range" => .range
  | "next_and_back" => .nextAndBack
  | "table" => .table
  | "table_inline" => .tableInline
  | _ => .auto

/-- everything `Features { … }` holds after parsing (before `resolve`) -/
structure Features where
  flags : Flags := []
  modes : Modes := {}
  items : List (Flag × ItemCfg) := []
deriving Repr, Inhabited

def Features.item (f : Features) (fl : Flag) : ItemCfg :=
  match f.items.find? (·.1 = fl) with
  | some (_, i) => i
  | none => { vis := some .inherited, name := "?" }

/-- `Features { as_str_fn: FeatureAsStrFn::parse(..), … }` in catalogue order -/
def parseFeatures : List FeatSpec → Features → FeatureMap → List Err → Features × FeatureMap × List Err
  | [], fs, fm, errs => (fs, fm, errs)
  | spec :: rest, fs, fm, errs =>
    let (o, fm, e) := parseFeature spec fm
    let modes := match spec.flag, o.mode with
      | .asStr, some m => { fs.modes with asStr := mode3OfString m }
      | .fromStrFn, some m => { fs.modes with fromStrFn := mode3OfString m }
      | .fromStrTrait, some m => { fs.modes with fromStrTrait := mode3OfString m }
      | .iter, some m => { fs.modes with iter := iterModeOfString m }
      | _, _ => fs.modes
    parseFeatures rest
      { flags := if o.enabled then fs.flags ++ [spec.flag] else fs.flags,
        modes := modes, items := fs.items ++ [(spec.flag, o.item)] } fm (errs ++ e)

end ET
