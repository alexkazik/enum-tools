/-
The generated program: one definition per `quote!` branch of `src/feature/**`, written to mirror
the Rust control flow (loops with early return, unchecked unwraps, wrapping arithmetic, casts),
over the tables the macro computes.  An enum value is represented by its discriminant.
-/
import EnumToolsModel.Config
namespace ET

/-! ### tables (`table_range.rs`, `table_name.rs`, `table_enum.rs`, `min_const.rs`, `max_const.rs`) -/

/-- the value of the literal `{n}{repr}` as rustc evaluates it inside derive output -/
def lit (r : Prim) (n : Int) : Int := r.wrap n

/-- entry of `__RANGES`: `(start ..= end, (start).wrapping_sub(offset))` -/
structure RangeEntry where
  start : Int
  stop : Int
  ofs : Int
deriving Repr, DecidableEq, Inhabited

def RangeEntry.contains (r : RangeEntry) (x : Int) : Bool := decide (r.start ≤ x) && decide (x ≤ r.stop)

/-- `table_range.rs:28-41`: the running `ofs` counts the variants before each run -/
def tableRangeGo (p : Prim) : Int → List (Int × Int) → List RangeEntry
  | _, [] => []
  | ofs, (b, e) :: rest =>
    { start := lit p b, stop := lit p e, ofs := p.wrap (lit p b - lit p ofs) } :: tableRangeGo p (ofs + (e - b + 1)) rest

def tableRange (D : Derive) : List RangeEntry := tableRangeGo D.repr 0 D.ranges
def tableName (D : Derive) : List Name := D.names
def tableEnum (D : Derive) : List Int := D.vals
/-- `Self::MIN as repr` -/
def minC (D : Derive) : Int := D.minKey
/-- `Self::MAX as repr` -/
def maxC (D : Derive) : Int := D.maxKey

/-- `transmute::<repr, Enum>(n)` is defined exactly when `n` is a declared discriminant -/
def transmute (D : Derive) (n : Int) : Res Int :=
  if n ∈ D.vals then .ok n else .ub .transmuteInvalid

/-- `x as repr_unsigned as usize`, as an index -/
def toIndex (D : Derive) (t : Target) (x : Int) : Nat :=
  ((asUnsigned D.ubits x) % (2 : Int) ^ t.ptrBits).toNat

/-- `TABLE[i]` -/
def index {α} (tbl : List α) (i : Nat) : Res α :=
  match tbl[i]? with
  | some a => .ok a
  | none => .panic .indexOOB

/-! ### into / Into -/

def intoFn (_ : Derive) (v : Int) : Int := v
def intoTrait (_ : Derive) (v : Int) : Int := v

/-! ### try_from / TryFrom (`try_from_fn.rs`, `try_from_trait.rs`) -/

def tryFromGapless (D : Derive) (value : Int) : Res (Option Int) :=
  if value ≥ minC D ∧ value ≤ maxC D then (transmute D value).bind (fun e => .ok (some e)) else .ok none

def tryFromScan (D : Derive) (value : Int) : List RangeEntry → Res (Option Int)
  | [] => .ok none
  | r :: rest =>
    if r.contains value then (transmute D value).bind (fun e => .ok (some e)) else tryFromScan D value rest

def tryFromHoles (D : Derive) (value : Int) : Res (Option Int) :=
  if value ≥ minC D ∧ value ≤ maxC D then tryFromScan D value (tableRange D) else .ok none

def tryFromFn (D : Derive) (value : Int) : Res (Option Int) :=
  if D.gapless then tryFromGapless D value else tryFromHoles D value

/-- the trait has its own copy of both bodies (`Result<Self, ()>` rendered as `Option`) -/
def tryFromTraitGapless (D : Derive) (value : Int) : Res (Option Int) :=
  if value ≥ minC D ∧ value ≤ maxC D then (transmute D value).bind (fun e => .ok (some e)) else .ok none

def tryFromTraitScan (D : Derive) (value : Int) : List RangeEntry → Res (Option Int)
  | [] => .ok none
  | r :: rest =>
    if r.contains value then (transmute D value).bind (fun e => .ok (some e)) else tryFromTraitScan D value rest

def tryFromTraitHoles (D : Derive) (value : Int) : Res (Option Int) :=
  if value ≥ minC D ∧ value ≤ maxC D then tryFromTraitScan D value (tableRange D) else .ok none

def tryFromTrait (D : Derive) (value : Int) : Res (Option Int) :=
  if D.gapless then tryFromTraitGapless D value else tryFromTraitHoles D value

/-! ### next / next_back (`next_fn.rs`, `next_back_fn.rs`) -/

def nextGapless (D : Derive) (v : Int) : Res (Option Int) :=
  if v = maxC D then .ok none
  else if v + 1 > D.repr.hi then .panic .arithOverflow
  else (transmute D (v + 1)).bind (fun e => .ok (some e))

/-- `loop { let r = it.next().unwrap_unchecked(); if r.0.contains(&current) {…} }` -/
def nextLoop (D : Derive) (current : Int) : List RangeEntry → Res (Option Int)
  | [] => .ub .unwrapUncheckedNone
  | r :: rest =>
    if r.contains current then
      let c' := D.repr.wrap (current + 1)
      if r.contains c' then (transmute D c').bind (fun e => .ok (some e))
      else match rest with
        | [] => .ok none
        | r2 :: _ => (transmute D r2.start).bind (fun e => .ok (some e))
    else nextLoop D current rest

def nextHoles (D : Derive) (v : Int) : Res (Option Int) := nextLoop D v (tableRange D)

def nextFn (D : Derive) (v : Int) : Res (Option Int) :=
  if D.gapless then nextGapless D v else nextHoles D v

def nextBackGapless (D : Derive) (v : Int) : Res (Option Int) :=
  if v = minC D then .ok none
  else if v - 1 < D.repr.lo then .panic .arithOverflow
  else (transmute D (v - 1)).bind (fun e => .ok (some e))

/-- the same loop driven by `next_back()` over the table: runs are visited last to first -/
def nextBackLoop (D : Derive) (current : Int) : List RangeEntry → Res (Option Int)
  | [] => .ub .unwrapUncheckedNone
  | r :: rest =>
    if r.contains current then
      let c' := D.repr.wrap (current - 1)
      if r.contains c' then (transmute D c').bind (fun e => .ok (some e))
      else match rest with
        | [] => .ok none
        | r2 :: _ => (transmute D r2.stop).bind (fun e => .ok (some e))
    else nextBackLoop D current rest

def nextBackHoles (D : Derive) (v : Int) : Res (Option Int) := nextBackLoop D v (tableRange D).reverse

def nextBackFn (D : Derive) (v : Int) : Res (Option Int) :=
  if D.gapless then nextBackGapless D v else nextBackHoles D v

/-! ### as_str (`as_str_fn.rs`), Display / Debug / IntoStr -/

/-- `match self { E::A => "a", … }` -/
def asStrMatch (D : Derive) (v : Int) : Res Name :=
  match D.values.find? (·.1 = v) with
  | some (_, (_, name)) => .ok name
  | none => .ub .invalidEnumValue

def asStrTableGapless (D : Derive) (t : Target) (v : Int) : Res Name :=
  index (tableName D) (toIndex D t (D.repr.wrap (v - minC D)))

def asStrTableHoles (D : Derive) (t : Target) (v : Int) : Res Name :=
  match (tableRange D).find? (·.contains v) with
  | none => .ub .unwrapUncheckedNone
  | some r => index (tableName D) (toIndex D t (D.repr.wrap (v - r.ofs)))

def asStr (D : Derive) (t : Target) (m : Mode3) (v : Int) : Res Name :=
  match m with
  | .table => if D.gapless then asStrTableGapless D t v else asStrTableHoles D t v
  | _ => asStrMatch D v

/-! ### from_str / FromStr (`from_str_fn.rs`, `from_str_trait.rs`) -/

/-- `match s { "a" => Some(E::A), …, _ => None }`: the first arm whose literal equals `s` -/
def fromStrMatch (D : Derive) (s : Name) : Res (Option Int) :=
  match D.values.find? (·.2.2 = s) with
  | some (d, _) => .ok (some d)
  | none => .ok none

/-- `for (i, n) in __NAME.iter().enumerate() { if s == *n { return Some(transmute((i as repr).wrapping_add(MIN))) } }` -/
def fromStrTableGaplessLoop (D : Derive) (s : Name) : Nat → List Name → Res (Option Int)
  | _, [] => .ok none
  | i, n :: rest =>
    if s = n then (transmute D (D.repr.wrap (D.repr.wrap (i : Int) + minC D))).bind (fun e => .ok (some e))
    else fromStrTableGaplessLoop D s (i + 1) rest

def fromStrTableGapless (D : Derive) (s : Name) : Res (Option Int) :=
  fromStrTableGaplessLoop D s 0 (tableName D)

/-- `for (e, n) in __ENUM.iter().zip(__NAME.iter()) { if s == *n { return Some(*e) } }` -/
def fromStrTableHolesLoop (s : Name) : List (Int × Name) → Res (Option Int)
  | [] => .ok none
  | (e, n) :: rest => if s = n then .ok (some e) else fromStrTableHolesLoop s rest

def fromStrTableHoles (D : Derive) (s : Name) : Res (Option Int) :=
  fromStrTableHolesLoop s ((tableEnum D).zip (tableName D))

def fromStr (D : Derive) (m : Mode3) (s : Name) : Res (Option Int) :=
  match m with
  | .table => if D.gapless then fromStrTableGapless D s else fromStrTableHoles D s
  | _ => fromStrMatch D s

/-! ### iterator states -/

/-- the state of a generated iterator struct -/
inductive IterState (α : Type) where
  /-- forwarding modes: `inner` is a std iterator over this list -/
  | cursor (l : List α)
  /-- `next_and_back` -/
  | nb (fwd bwd : Option α) (len : Nat)
deriving Repr, DecidableEq, Inhabited

/-- `(a..=b).map(|x| transmute(x))`: every element the iterator can yield goes through `transmute` -/
def mapTransmute (D : Derive) : List Int → Res (List Int)
  | [] => .ok []
  | x :: rest => (transmute D x).bind (fun e => (mapTransmute D rest).bind (fun es => .ok (e :: es)))

/-! ### iter() (`iter/*.rs`) -/

def iterInit (D : Derive) (m : IterMode) : Res (IterState Int) :=
  match m with
  | .range => (mapTransmute D (interval (lit D.repr D.minKey) (lit D.repr D.maxKey))).bind (fun l => .ok (.cursor l))
  | .nextAndBack => .ok (.nb (some (minC D)) (some (maxC D)) D.numValues)
  | .table => .ok (.cursor (tableEnum D))
  | .tableInline => .ok (.cursor D.vals)
  | .auto => .ok (.cursor [])   -- unreachable after `resolve`

/-! ### names() (`names.rs`) -/

def namesInit (D : Derive) : IterState Name := .cursor (tableName D)

/-! ### range(a, b) (`range_fn.rs`) -/

/-- `TABLE[s..e + 1]` with std's panic conditions (the generated code takes it only when `s ≤ e`, see `rangeSlice`) -/
def sliceIncl {α} (tbl : List α) (s e : Nat) : Res (List α) :=
  if s > e + 1 then .panic .sliceOrder
  else if e + 1 > tbl.length then .panic .indexOOB
  else .ok ((tbl.drop s).take (e + 1 - s))

def nbLen (s e : Nat) : Nat := if s > e then 0 else e - s + 1

/-- the `for r in __RANGES.iter()` loop with its two conditional `MaybeUninit::write`s -/
def rangeIdxLoop (D : Derive) (t : Target) (s e : Int) : List RangeEntry → Option Nat × Option Nat → Option Nat × Option Nat
  | [], acc => acc
  | r :: rest, (si, ei) =>
    let si := if r.contains s then some (toIndex D t (D.repr.wrap (s - r.ofs))) else si
    let ei := if r.contains e then some (toIndex D t (D.repr.wrap (e - r.ofs))) else ei
    rangeIdxLoop D t s e rest (si, ei)

def rangeIdx (D : Derive) (t : Target) (s e : Int) : Res (Nat × Nat) :=
  match rangeIdxLoop D t s e (tableRange D) (none, none) with
  | (some si, some ei) => .ok (si, ei)
  | _ => .ub .assumeInitUninit

/-- table mode: an empty slice when the start index is above the end index -/
def rangeSlice (D : Derive) (si ei : Nat) : Res (IterState Int) :=
  if si > ei then .ok (.cursor [])
  else (sliceIncl (tableEnum D) si ei).bind (fun l => .ok (.cursor l))

def rangeInit (D : Derive) (t : Target) (m : IterMode) (a b : Int) : Res (IterState Int) :=
  if D.gapless then
    match m with
    | .range => (mapTransmute D (interval a b)).bind (fun l => .ok (.cursor l))
    | .nextAndBack =>
      let si := toIndex D t (D.repr.wrap (a - minC D))
      let ei := toIndex D t (D.repr.wrap (b - minC D))
      .ok (.nb (some a) (some b) (nbLen si ei))
    | .table =>
      let si := toIndex D t (D.repr.wrap (a - minC D))
      let ei := toIndex D t (D.repr.wrap (b - minC D))
      rangeSlice D si ei
    | _ => .ok (.cursor [])   -- rejected by `resolve`
  else
    match m with
    | .nextAndBack => (rangeIdx D t a b).bind (fun (si, ei) => .ok (.nb (some a) (some b) (nbLen si ei)))
    | .table => (rangeIdx D t a b).bind (fun (si, ei) => rangeSlice D si ei)
    | _ => .ok (.cursor [])   -- rejected by `resolve`

end ET
