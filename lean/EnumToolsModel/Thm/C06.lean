/-
C06 — iter() is a double-ended exact-size fused iterator over all variants ascending.
-/
import EnumToolsModel.Lemmas.IterSim
import EnumToolsModel.Thm.C05
import EnumToolsModel.Generated.Inventory
import EnumToolsModel.Lemmas.TemplatesRun
namespace ET.Thm

/-- the enum's `next` / `next_back`, by position (from C05) -/
theorem stepFns (D : Derive) (h : D.WF) : StepFns D.vals (nextFn D) (nextBackFn D) :=
  ⟨fun i hi => C05_next_index D h i hi, fun i hi => C05_nextBack_index D h i hi⟩

/-- `iter()` starts out representing all variants in ascending discriminant order — in each of the
four concrete modes (`range` only exists for gapless enums: `resolve` rejects it otherwise) -/
theorem C06_init (D : Derive) (h : D.WF) (m : IterMode) (hm : m ≠ .auto) (hr : m = .range → D.gapless = true) :
    ∃ st, iterInit D m = .ok st ∧ Sim D.vals st (spec.iter D.sem) := by
  rw [show spec.iter D.sem = D.vals from D.sem_discs]
  cases m with
  | auto => exact absurd rfl hm
  | range =>
    refine ⟨.cursor D.vals, ?_, Sim.cursor _⟩
    simp only [iterInit, lit, h.wrap_val h.minKey_mem, h.wrap_val h.maxKey_mem, ← h.gapless_interval (hr rfl),
      mapTransmute_ok D D.vals (fun x hx => hx), Res.bind_ok]
  | nextAndBack => exact ⟨_, rfl, D.vals_length ▸ Sim.nb_all h.head?_eq h.getLast?_eq⟩
  | table | tableInline => exact ⟨.cursor D.vals, rfl, Sim.cursor _⟩

/-- Observational equality with a cursor over the sorted variant list: after *any* finite sequence
of `next`, `next_back`, `nth`, `nth_back`, `len`, `size_hint`, every output equals the cursor's, and
any consuming operation (`fold`, `rfold`, `last`, `count`, `collect`, `rev`) gives the cursor's result.
In particular no operation is UB or panics. -/
theorem C06_iter (D : Derive) (h : D.WF) (m : IterMode) (hm : m ≠ .auto) (hr : m = .range → D.gapless = true)
    (ops : List Op) (fin : Fin) :
    ∃ st st', iterInit D m = .ok st ∧
      IterState.run (nextFn D) (nextBackFn D) st ops = .ok (st', (Cursor.run (spec.iter D.sem) ops).2) ∧
      IterState.finish (nextFn D) (nextBackFn D) st' fin = .ok (Cursor.finish (Cursor.run (spec.iter D.sem) ops).1 fin) := by
  obtain ⟨st, hi, hsim⟩ := C06_init D h m hm hr
  obtain ⟨st', hrun, hsim'⟩ := run_sim (stepFns D h) ops st _ hsim
  exact ⟨st, st', hi, hrun, finish_sim (stepFns D h) st' _ hsim' fin⟩

/-- fused: an exhausted cursor stays exhausted and keeps answering `None` / 0 -/
theorem C06_fused (op : Op) : (Cursor.step ([] : List Int) op).1 = [] ∧
    (Cursor.step ([] : List Int) op).2 = (match op with | .len => .len 0 | .sizeHint => .hint 0 (some 0) | _ => .item none) := by
  cases op <;> simp [Cursor.step]

/-- exact size: the reported length is the number of remaining items, whatever happened before -/
theorem C06_len (l : List Int) (ops : List Op) :
    (Cursor.step (Cursor.run l ops).1 .len).2 = .len (Cursor.run l ops).1.length := rfl

/-- whatever the history, what remains is a contiguous piece of the original sequence: nothing is
reordered, nothing yielded from one end comes back, front and back never cross -/
theorem C06_remaining_infix {α} (ops : List Op) : ∀ (l : List α), (Cursor.run l ops).1 <:+: l := by
  induction ops with
  | nil => intro l; exact List.infix_rfl
  | cons op ops ih =>
    intro l
    simp only [Cursor.run]
    exact (ih _).trans (cursor_step_infix l op)

/-- so the remaining items of `iter()` are always ascending, and `len()` never grows -/
theorem C06_remaining_sorted (D : Derive) (h : D.WF) (ops : List Op) :
    (Cursor.run (spec.iter D.sem) ops).1.Pairwise (· < ·) ∧
    (Cursor.run (spec.iter D.sem) ops).1.length ≤ D.numValues := by
  rw [show spec.iter D.sem = D.vals from D.sem_discs]
  have hi := C06_remaining_infix ops D.vals
  exact ⟨h.sorted.sublist hi.sublist, D.vals_length ▸ hi.length_le⟩

/-- the forwarding modes (range, table, table_inline — and `names()`) are what the model says they are:
over the regenerated inventory, every method of `extend_common` calls the same-named method of the inner
std iterator with the same arguments in the same order (`len` of the range mode: `size_hint().0`), and all
nine forwarded methods are present (`len` in either of its two forms) -/
theorem C06_forwarders_wired :
    (Generated.forwarders.all (fun f =>
      (f.1 == f.2.1 && f.2.2.1 == f.2.2.2.1 && f.2.2.2.2 == "") ||
      (f.1 == "len" && f.2.1 == "size_hint" && f.2.2.2.2 == ".0"))) = true ∧
    (["next", "size_hint", "nth", "fold", "last", "next_back", "nth_back", "rfold", "len"].all
      (fun n => Generated.forwarders.any (fun f => f.1 == n))) = true := by
  decide +kernel

/-- non-vacuity: a front/back interleaving that meets in the middle on the three-field state machine -/
example : exD1.WF ∧
    (iterInit exD1 .nextAndBack).bind (fun st => IterState.run (nextFn exD1) (nextBackFn exD1) st [.next, .nextBack, .nth 1, .nextBack, .nextBack, .next, .len])
      = (.ok (.nb (some 3) (some (-4)) 0, [.item (some (-10)), .item (some 127), .item (some (-4)), .item (some 126), .item (some 3), .item none, .len 0])) := by
  refine ⟨exD1_WF, by decide⟩

/-! ### the same statement about the iterator translated from /repo/src (`Generated/Templates.lean`, `TRun.lean`) -/

theorem stepFns_source (D : Derive) (tg : Target) (md : Modes) (h : D.WF) :
    StepFns D.vals (T.next D tg md) (T.nextBack D tg md) :=
  ⟨fun i hi => (C05_source_index D tg md h i hi).1, fun i hi => (C05_source_index D tg md h i hi).2⟩

/-- the function bodies the templates contain are exactly the ones the model accounts for: in particular the hand-written
`next_and_back` struct implements `next`, `size_hint`, `next_back`, `len` and nothing else, so every other `Iterator` /
`DoubleEndedIterator` method on it is `core`'s provided one (which is how `TRun.lean` and `Iter.lean` run them) -/
theorem C06_translated_functions : T.translatedFunctions =
    ["asStr_match", "asStr_table_gapless", "asStr_table_holes", "debug", "display", "fromStrFn_match", "fromStrFn_table_gapless",
     "fromStrFn_table_holes", "fromStrTrait_match", "fromStrTrait_table_gapless", "fromStrTrait_table_holes", "intoFn", "intoStr",
     "intoTrait", "iter_DoubleEnded_next_back_nextAndBack", "iter_ExactSize_len_nextAndBack", "iter_Iterator_next_nextAndBack",
     "iter_Iterator_size_hint_nextAndBack", "iter_nextAndBack", "iter_range", "iter_table", "iter_tableInline", "names",
     "nextBack_gapless", "nextBack_holes", "next_gapless", "next_holes", "range_gapless_nextAndBack", "range_gapless_range",
     "range_gapless_table", "range_holes_nextAndBack", "range_holes_table", "tryFromFn_gapless", "tryFromFn_holes",
     "tryFromTrait_gapless", "tryFromTrait_holes"] := rfl

/-- `iter()` as the source is written now — its constructor in each mode and the hand-written
`next_and_back` methods — is observationally a cursor over the sorted variants under every finite history -/
theorem C06_source (D : Derive) (tg : Target) (md : Modes) (h : D.WF) (ht : tg.WF)
    (hm : md.iter ≠ .auto) (hr : md.iter = .range → D.gapless = true) (ops : List Op) (fin : Fin) :
    ∃ st st', T.iter D tg md = .ok st ∧
      T.runT D tg md st ops = .ok (st', (Cursor.run (spec.iter D.sem) ops).2) ∧
      T.finishT D tg md st' fin = .ok (Cursor.finish (Cursor.run (spec.iter D.sem) ops).1 fin) := by
  obtain ⟨st, hi, hsim⟩ := C06_init D h md.iter hm hr
  obtain ⟨st', h1, h2⟩ := T.observeT D tg md h ht (stepFns_source D tg md h) st _ hsim (iterInit_cursor D md.iter st hi) ops fin
  exact ⟨st, st', by rw [T.iter_eq D tg md hm]; exact hi, h1, h2⟩

end ET.Thm
