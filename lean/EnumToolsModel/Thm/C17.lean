/-
C17 — Expansion is deterministic.
(a) In the model, the order in which the `HashMap` of `parse_values` yields its entries (any
    permutation `π`: the hash seed of the process) does not influence the macro's result.
(b) Over the regenerated inventory: the only iteration over a `HashMap` whose order could reach the
    output is sorted by key before use; the others only emit errors; no other per-process state is used.
-/
import EnumToolsModel.Lemmas.SortKey
import EnumToolsModel.Generated.HashSites
import EnumToolsModel.Macro
namespace ET.Thm
open ET.Generated

/-- for every hash order `π`, the macro computes the same thing -/
theorem C17_order_independent (π : List (Int × (Name × Name)) → List (Int × (Name × Name)))
    (hπ : ∀ l, (π l).Perm l) (t : Target) (d : Decl) : expandWith π t d = expandWith id t d := by
  unfold expandWith
  split
  · rfl
  split
  · rfl
  split
  · rfl
  dsimp only
  -- the same test on both sides (`split` on this `if` is slow)
  refine ite_congr rfl (fun _ => rfl) (fun _ => ?_)
  split
  · rfl
  rename_i pv hpv
  -- the only use of `π`: the entries are sorted by key, and the loop keeps the keys distinct
  have hn : (pv.values.map (·.1)).Nodup := pvLoop_nodup _ _ _ _ hpv (by simp)
  rw [sortByKey_perm_invariant _ _ (hπ pv.values) (((hπ pv.values).map _).nodup_iff.mpr hn)]
  rfl

/-- the value list handed to every generator is strictly ascending by discriminant, whatever the hash order -/
theorem C17_values_sorted (l : List (Int × (Name × Name))) (hn : (l.map (·.1)).Nodup) :
    ((sortByKey l).map (·.1)).Pairwise (· < ·) :=
  List.pairwise_map.mpr (sortByKey_lt l hn)

/-- every `HashMap` iteration site in `/repo/src` is sorted before use or only feeds error reporting -/
theorem C17_hash_sites :
    (hashIterSites.all (fun s => s.2.2.2 == .sortedBeforeUse || s.2.2.2 == .errorPathOnly)) = true := by
  decide +kernel

/-- no other source of per-process state (environment, time, statics, threads, atomics, RandomState, files) -/
theorem C17_no_other_sources : nondeterminismSources = [] := by decide +kernel

/-- the order really is arbitrary in the model: a reversed map gives the same result on a concrete declaration -/
example : expandWith List.reverse {} { attrs := [.repr (.ident "i8")], variants := [{ ident := [66], disc := some (.intLit 5) }, { ident := [65], disc := some (.neg true (.intLit 3)) }, { ident := [67] }] }
    = expandWith id {} { attrs := [.repr (.ident "i8")], variants := [{ ident := [66], disc := some (.intLit 5) }, { ident := [65], disc := some (.neg true (.intLit 3)) }, { ident := [67] }] } :=
  C17_order_independent List.reverse (fun l => List.reverse_perm l) _ _

end ET.Thm
