/-
C12 — Declarations outside the supported domain never compile.   (partial)
Contrapositive, for *every* declaration the model can express (every discriminant-expression
constructor including `other`, which stands for all forms the code does not look into; every kind
of field; struct/union; every repr-attribute shape): if the derive accepts, the declaration is in
the documented domain.  Not proved: that `syn` classifies concrete syntax into these constructors
as modelled, and that an emitted error makes rustc fail (sampled by the probes).
-/
import EnumToolsModel.Lemmas.Expand
import EnumToolsModel.Lemmas.ReprTableEq
namespace ET.Thm

/-- the repr attributes of a declaration -/
def reprAttrs (attrs : List EAttr) : List ReprArg :=
  attrs.filterMap (fun a => match a with | .repr r => some r | _ => none)

/-- the repr recorded is the one repr attribute seen: whatever was recorded before, followed by the repr
attributes of the list, is at most one identifier, the one recorded afterwards -/
theorem parseAttrs_repr : ∀ (attrs : List EAttr) (st a : AttrsOut), parseAttrs st attrs = .ok a →
    st.repr.toList.map ReprArg.ident ++ reprAttrs attrs = a.repr.toList.map ReprArg.ident := by
  intro attrs st a h
  -- along the arms of `parseAttrs`: a `repr` is recorded if none was before (4), three arms go on with `st.repr` as it is
  -- (2 a foreign attribute, 8 `enum_tools(..)`, 9 `enum_tools` without a list), four abort (3, 5, 6, 7)
  fun_induction parseAttrs st attrs with
  | case1 => cases h; simp [reprAttrs]
  | case4 st rest hs s ih => simpa [hs, reprAttrs] using ih h
  | case2 st rest ih | case8 st items rest fm errs hp ih | case9 st rest ih => exact ih h
  | case3 | case5 | case6 | case7 => cases h

/-- the documented domain of a declaration, as far as the enum itself is concerned -/
structure InDomain (t : Target) (d : Decl) : Prop where
  isEnum : d.kind = .enum
  /-- exactly one repr attribute, naming one of the twelve primitive types -/
  oneRepr : ∃ r, reprAttrs d.attrs = [.ident r] ∧ (reprTable t r).isSome
  /-- every variant is a unit variant with a discriminant that is implicit or an (optionally negated)
  integer literal within i64, and only `rename = "…"` as `enum_tools` attribute -/
  forms : ∀ v ∈ d.variants, v.fields = .unit ∧ v.attrsOk ∧ (∀ e, v.disc = some e → e.InDomain)
  /-- the discriminants the language assigns exist, lie within i64 and are distinct; 1..=65534 variants -/
  discs : ∃ l, rustcDiscs 0 d.variants = some l ∧ l ≠ [] ∧ l.length < 65535 ∧ l.length = d.variants.length ∧
    (∀ p ∈ l, i64Min ≤ p.1 ∧ p.1 ≤ i64Max) ∧ (l.map (·.1)).Nodup

/-- Whatever the derive accepts lies in the documented domain — so a struct, a union, an enum without
variants, a variant with fields, a discriminant that is not a plain (optionally negated) integer
literal (any other expression form), a value outside i64, a missing / duplicated / non-identifier /
non-primitive repr, or 65535 and more variants is always rejected. -/
theorem C12_accept_implies_domain (t : Target) (d : Decl) (x : Expansion) (h : expand t d = .ok x) : InDomain t d := by
  obtain ⟨a, rname, repr, sg, ub, pv, ha, hrn, hrt, _, _, hkind, hpv, hpverrs, hne, hlen, _, _⟩ := expand_ok t d x h
  obtain ⟨hforms, l, hl, hll, hvals, hnd, hrange⟩ := pvLoop_clean_discs _ _ _ hpv hpverrs
  have hlen' : pv.values.length = l.length := by rw [hvals]; simp [entriesOf, hll]
  refine ⟨hkind, ⟨rname, ?_, by rw [hrt]; rfl⟩, fun v hv => ?_, ⟨l, hl, fun e => hne ?_, hlen' ▸ hlen, hll, hrange, hnd⟩⟩
  · simpa [hrn] using parseAttrs_repr d.attrs {} a ha
  · obtain ⟨h1, h2, h3⟩ := hforms v hv; exact ⟨h2, h1, h3⟩
  · rw [e] at hlen'; exact List.eq_nil_of_length_eq_zero hlen'

/-- each way of leaving the domain, spelled out as a rejection -/
theorem C12_rejections (t : Target) (d : Decl) :
    (d.kind ≠ .enum → ∀ x, expand t d ≠ .ok x) ∧
    (d.variants = [] → ∀ x, expand t d ≠ .ok x) ∧
    ((∃ v ∈ d.variants, v.fields ≠ .unit) → ∀ x, expand t d ≠ .ok x) ∧
    ((∃ v ∈ d.variants, ∃ e, v.disc = some e ∧ ¬ e.InDomain) → ∀ x, expand t d ≠ .ok x) ∧
    (reprAttrs d.attrs = [] → ∀ x, expand t d ≠ .ok x) ∧
    (2 ≤ (reprAttrs d.attrs).length → ∀ x, expand t d ≠ .ok x) ∧
    (.other ∈ reprAttrs d.attrs → ∀ x, expand t d ≠ .ok x) ∧
    (65535 ≤ d.variants.length → ∀ x, expand t d ≠ .ok x) := by
  have dom := C12_accept_implies_domain t d
  refine ⟨fun hk x hx => hk (dom x hx).isEnum, fun hv x hx => ?_, fun ⟨v, hv, hf⟩ x hx => ?_,
    fun ⟨v, hv, e, he, hd⟩ x hx => ?_, fun hr x hx => ?_, fun hr x hx => ?_, fun hr x hx => ?_, fun hn x hx => ?_⟩
  · obtain ⟨l, hl, hne, _⟩ := (dom x hx).discs
    rw [hv] at hl; cases hl; exact hne rfl
  · exact hf ((dom x hx).forms v hv).1
  · exact hd (((dom x hx).forms v hv).2.2 e he)
  · obtain ⟨r, hr', _⟩ := (dom x hx).oneRepr; rw [hr] at hr'; cases hr'
  · obtain ⟨r, hr', _⟩ := (dom x hx).oneRepr; rw [hr'] at hr; simp at hr
  · obtain ⟨r, hr', _⟩ := (dom x hx).oneRepr; rw [hr'] at hr; simp at hr
  · obtain ⟨l, _, _, hlen, hll, _⟩ := (dom x hx).discs
    omega

/-- the classification is not vacuous: `other` (any non-literal expression), a parenthesised or doubly negated
literal, a literal above i64::MAX are all outside the domain -/
example : ¬ DiscExpr.other.InDomain ∧ ¬ (DiscExpr.neg true (.neg true (.intLit 1))).InDomain ∧
    ¬ (DiscExpr.intLit 9223372036854775808).InDomain ∧ (DiscExpr.neg true (.intLit 9223372036854775808)).InDomain := by
  refine ⟨by simp [DiscExpr.InDomain], by simp [DiscExpr.InDomain], by simp [DiscExpr.InDomain, i64Max], by simp [DiscExpr.InDomain, i64Min]⟩

/-- exactly the twelve primitive reprs pass the repr table written in `parser/mod.rs` on this run -/
theorem C12_repr_table_source (t : Target) :
    (ET.Generated.reprArms.all (armAgrees t)) = true
    ∧ (∀ r, (reprTable t r).isSome ↔ r ∈ ET.Generated.reprArms.map (·.1)) := repr_table_source t

end ET.Thm
