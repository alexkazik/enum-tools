/-
C03 — as_str, Display, Debug and IntoStr return exactly the variant's name.
(`Display`, `Debug` and `IntoStr` are a single call of `as_str`; the driver runs all four against the
same model function.)
-/
import EnumToolsModel.Lemmas.Index
import EnumToolsModel.Lemmas.Examples
import EnumToolsModel.Lemmas.TemplatesEq
import EnumToolsModel.Lemmas.ReprTableEq
namespace ET.Thm

/-- every variant has a name in the specification -/
theorem C03_has_name (D : Derive) (h : D.WF) (v : Int) (hv : v ∈ D.vals) : ∃ n, spec.asStr D.sem v = some n := by
  rw [← D.sem_discs] at hv
  obtain ⟨p, hp, rfl⟩ := List.mem_map.mp hv
  exact ⟨p.2, h.spec_asStr_of_mem hp⟩

/-- match mode: the arm of the variant -/
theorem C03_asStr_match (D : Derive) (h : D.WF) (v : Int) (hv : v ∈ D.vals) :
    ∃ n, spec.asStr D.sem v = some n ∧ asStrMatch D v = .ok n := by
  obtain ⟨n, hn⟩ := C03_has_name D h v hv
  refine ⟨n, hn, ?_⟩
  rw [spec_asStr_values, Option.map_eq_some_iff] at hn
  obtain ⟨⟨d, i, nm⟩, hx, rfl⟩ := hn
  rw [asStrMatch, hx]

/-- table mode, gapless: `__NAME[(v.wrapping_sub(MIN)) as unsigned as usize]` -/
theorem C03_asStr_table_gapless (D : Derive) (t : Target) (h : D.WF) (ht : t.WF) (hg : D.gapless = true)
    (v : Int) (hv : v ∈ D.vals) :
    ∃ n, spec.asStr D.sem v = some n ∧ asStrTableGapless D t v = .ok n := by
  obtain ⟨n, hn1, hn2⟩ := spec_asStr_of_pos D h _ v (pos_gapless D t h ht hg v hv)
  exact ⟨n, hn2, by rw [asStrTableGapless, tableName, index, hn1]⟩

/-- table mode, with holes: find the run, subtract its offset -/
theorem C03_asStr_table_holes (D : Derive) (t : Target) (h : D.WF) (ht : t.WF)
    (v : Int) (hv : v ∈ D.vals) :
    ∃ n, spec.asStr D.sem v = some n ∧ asStrTableHoles D t v = .ok n := by
  obtain ⟨r, hf, hk⟩ := pos_holes D t h ht v hv
  obtain ⟨n, hn1, hn2⟩ := spec_asStr_of_pos D h _ v hk
  exact ⟨n, hn2, by rw [asStrTableHoles, hf]; simp only; rw [tableName, index, hn1]⟩

/-- as_str returns exactly the variant's name in every mode (match, table; `auto`, which `resolve` never leaves behind, is read as match) and for every shape -/
theorem C03_asStr (D : Derive) (t : Target) (h : D.WF) (ht : t.WF) (m : Mode3) (v : Int) (hv : v ∈ D.vals) :
    ∃ n, spec.asStr D.sem v = some n ∧ asStr D t m v = .ok n := by
  -- the arms of `asStr`: table mode without and with holes; every other mode is read as match
  fun_cases asStr D t m v with
  | case1 hg => exact C03_asStr_table_gapless D t h ht hg v hv
  | case2 hg => exact C03_asStr_table_holes D t h ht v hv
  | case3 m hm => exact C03_asStr_match D h v hv

/-- the name is the rename if present, else the identifier: the specification reads it off the sorted
`(discriminant, name)` list, where `name` is what `Variant.name` computes -/
theorem C03_name_is_rename_or_ident (v : Variant) :
    v.name = (v.attrs.foldl (fun acc a => match a with | .rename s => s | _ => acc) v.ident) := rfl

/-- non-vacuity: negative later run, renamed variant, table mode with holes; gapless at the type's MAX -/
example : exD1.WF ∧ asStr exD1 {} .table (-5) = .ok [98, 98] ∧ asStr exD1 {} .table 127 = .ok [70]
    ∧ asStr exD2 {} .table 255 = .ok [67] ∧ asStr exD3 {} .table (-128) = .ok [65] := by
  refine ⟨exD1_WF, by decide, by decide, by decide, by decide⟩

/-- `as_str`, `Display`, `Debug`, `IntoStr` as the source is written now (`Generated/Templates.lean`), in every resolved mode -/
theorem C03_source (D : Derive) (tg : Target) (md : Modes) (h : D.WF) (ht : tg.WF) (hm : md.asStr ≠ .auto) (v : Int) (hv : v ∈ D.vals) :
    ∃ n, spec.asStr D.sem v = some n ∧ T.asStr D tg md v = .ok n ∧ T.display D tg md v = .ok n ∧
      T.debug D tg md v = .ok n ∧ T.intoStr D tg md v = .ok n := by
  obtain ⟨n, hs, hn⟩ := C03_asStr D tg h ht md.asStr v hv
  exact ⟨n, hs, by rw [T.asStr_eq D tg md h hm v hv, hn], by rw [T.display_eq D tg md h hm v hv, hn],
    by rw [T.debug_eq D tg md h hm v hv, hn], by rw [T.intoStr_eq D tg md h hm v hv, hn]⟩

/-- the index into the name table goes through `#repr_unsigned`: the companion type written in `parser/mod.rs` on this run is the unsigned type of the repr's own width -/
theorem C03_repr_table_source (t : Target) :
    (ET.Generated.reprArms.all (armAgrees t)) = true
    ∧ (∀ r, (reprTable t r).isSome ↔ r ∈ ET.Generated.reprArms.map (·.1)) := repr_table_source t

end ET.Thm
