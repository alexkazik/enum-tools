/-
C13 — Invalid or contradictory configuration is rejected, never silently ignored.   (partial)
Proved, for every attribute AST the model can express and over the regenerated catalogue / rules:
an unknown feature, an unknown parameter, a repeated feature or parameter, a malformed item, a mode
or visibility outside the documented values, a value of the wrong kind, `range` without `iter` or with
table_inline, iter mode `range` on an enum with holes, and any variant-level `enum_tools` attribute
other than `rename = "…"` each make the derive fail — errors are only ever appended, never dropped.
Not proved: `syn`'s classification of concrete attribute syntax (sampled by the probes).
-/
import EnumToolsModel.Lemmas.C13Aux
import EnumToolsModel.Lemmas.C10Aux
import EnumToolsModel.Thm.C12
namespace ET.Thm
open ET.Generated

/-! ### the attribute engine never drops anything silently -/

/-- an unknown feature is always an error -/
theorem C13_unknown_feature (D : Derive) (sorted : Sorted) (fm : FeatureMap) (errs : List Err) (k : String)
    (hk : ∀ s ∈ catalog, s.key ≠ k) (hin : k ∈ fm.map (·.1)) : ∀ x, configStage D sorted fm errs ≠ .ok x := by
  intro x h
  have hkeep := parseFeatures_keeps_unknown k catalog {} fm errs hk hin
  rw [(configStage_ok D sorted fm errs x h).2.1] at hkeep
  cases hkeep

/-- the keys the derive knows (`sorted` is parsed before them); `C10_docs_features_and_params` compares them with the documentation -/
theorem C13_catalog_keys :
    catalog.map (·.key) = ["as_str", "Debug", "Display", "from_str", "FromStr", "into", "IntoStr", "Into", "iter", "MAX", "MIN",
      "names", "next_back", "next", "range", "try_from", "TryFrom"] := rfl

/-! ### parameters -/

/-- every step's errors end up in the feature's error list -/
theorem C13_errors_collected (spec : FeatSpec) (pm : ParamMap) (fm : FeatureMap) :
    (parseFeature spec ((spec.key, pm) :: fm)).2.2 =
      (stepVisName spec pm).2.2.2 ++ (stepStruct spec (stepVisName spec pm).2.2.1).2.2 ++
        (stepMode spec (stepStruct spec (stepVisName spec pm).2.2.1).2.1).2.2 ++
          finishParams (stepMode spec (stepStruct spec (stepVisName spec pm).2.2.1).2.1).2.1 := by
  simp [parseFeature, smapRemove]

/-- an unknown parameter (one the feature does not ask for) is never ignored: `finish` reports it -/
theorem C13_unknown_param (spec : FeatSpec) (k : String) (hk : ¬ asksFor spec k) (pm : ParamMap) (fm : FeatureMap)
    (hin : k ∈ pm.map (·.1)) :
    (parseFeature spec ((spec.key, pm) :: fm)).2.2 ≠ [] := by
  have hkeep := (steps_keep spec k hk pm).1.mpr hin
  intro h
  rw [C13_errors_collected, List.append_eq_nil_iff, finishParams, List.map_eq_nil_iff] at h
  rw [h.2] at hkeep
  cases hkeep

/-! ### values of the wrong kind, modes and visibilities outside the documented ones -/

/-- `vis`: only `""`, `"pub(crate)"`, `"pub"` pass; a flag or a non-string value is an error too -/
theorem C13_vis (pm : ParamMap) (v : Option LitV) (h : (smapRemove "vis" pm).1 = some v) :
    (getVis pm).2.2 = [] ↔ (v = some (.str "") ∨ v = some (.str "pub(crate)") ∨ v = some (.str "pub")) := by
  -- the arms of `getVis`: no entry; the three accepted strings; another string; a flag or a non-string value
  fun_cases getVis pm with
  | case1 pm' heq => rw [heq] at h; cases h
  | case2 pm' heq | case3 pm' heq | case4 pm' heq =>
    rw [heq] at h; cases h
    simp
  | case5 s pm' h1 h2 h3 heq | case6 x pm' h1 h2 h3 _ heq =>
    rw [heq] at h; cases h
    simpa using ⟨h1, h2, h3⟩

/-- a string parameter (`name`, `mode`, `struct_name`) given as a flag or with a non-string value is an error -/
theorem C13_string_param_kind (key : String) (pm : ParamMap) (v : Option LitV) (h : (smapRemove key pm).1 = some v) :
    (getStrOpt key pm).2.2 = [] ↔ ∃ s, v = some (.str s) := by
  rw [getStrOpt, smapRemove_of_fst h]
  cases v with
  | none => simp
  | some l => cases l <;> simp

/-- a flag parameter of `sorted` given with a value is an error -/
theorem C13_flag_param_kind (key : String) (pm : ParamMap) (l : LitV) (h : (smapRemove key pm).1 = some (some l)) :
    (getBool key pm).2.2 ≠ [] := by
  rw [getBool, smapRemove_of_fst h]
  simp

/-- a mode outside the values the feature documents is an error -/
theorem C13_mode (spec : FeatSpec) (hm : spec.modeKind ≠ .none) (pm : ParamMap) (mo : String)
    (h : (smapRemove "mode" pm).1 = some (some (.str mo))) (hmo : mo ∉ spec.modes) : (stepMode spec pm).2.2 ≠ [] := by
  rw [stepMode, getStrOpt, smapRemove_of_fst h]
  cases hk : spec.modeKind with
  | none => exact absurd hk hm
  | m3 => simp [hmo]
  | iter => simp [hmo]

/-! ### repetitions and malformed items -/

/-- a feature that is already in the map (from this or an earlier attribute) is reported as a duplicate;
so is an item that is not a path or a list; none of this is ever dropped from the error list -/
theorem C13_duplicate_feature (n : String) (fm : FeatureMap) (errs : List Err) (rest : List CfgItem) (r : FeatureMap × List Err)
    (hin : n ∈ fm.map (·.1)) (h : parseItems fm errs (.path (.simple n) :: rest) = some r) : r.2 ≠ [] := by
  simp only [parseItems, (smapInsert_dup_iff n ([] : ParamMap) fm).mpr hin, if_true] at h
  obtain ⟨e, he⟩ := parseItems_errs rest _ _ r h
  rw [he]; simp

/-- an item that is neither a path nor a list is reported -/
theorem C13_malformed_item (fm : FeatureMap) (errs : List Err) (rest : List CfgItem) (r : FeatureMap × List Err)
    (h : parseItems fm errs (.other :: rest) = some r) : r.2 ≠ [] := by
  simp only [parseItems] at h
  obtain ⟨e, he⟩ := parseItems_errs rest _ _ r h
  rw [he]; simp

/-- errors recorded while reading the attributes make the derive fail -/
theorem C13_attr_errors_reject (t : Target) (d : Decl) (a : AttrsOut) (ha : parseAttrs {} d.attrs = .ok a) (he : a.errs ≠ []) :
    ∀ x, expand t d ≠ .ok x := by
  intro x hx
  obtain ⟨a', _, _, _, _, _, ha', _, _, hae, _⟩ := expand_ok t d x hx
  rw [ha] at ha'; cases ha'; exact he hae

/-! ### contradictory requests -/

/-- `range` without `iter`, `range` with `iter` in table_inline mode, `iter` in range mode on an enum with
holes: `resolve` fails, whatever else is enabled -/
theorem C13_contradictory (sh : Shape) (fl : Flags) (m : Modes) :
    ((.range ∈ fl ∧ .iter ∉ fl) → ∀ r, resolve sh fl m ≠ .ok r) ∧
    ((.range ∈ fl ∧ m.iter = .tableInline) → ∀ r, resolve sh fl m ≠ .ok r) ∧
    ((.iter ∈ fl ∧ m.iter = .range ∧ sh.gapless = false) → ∀ r, resolve sh fl m ≠ .ok r) := by
  -- each of them already trips the `abort!`s of the first pass
  have first : ∀ r, resolve sh fl m = .ok r → LegalCfg sh fl m :=
    fun r hres => (no_abort_iff sh fl m).mp ((resolve_ok sh fl m r.1 r.2).mp hres).1
  refine ⟨fun ⟨hr, hi⟩ r hres => hi ((first r hres).1 hr).1, fun ⟨hr, hm⟩ r hres => ((first r hres).1 hr).2 hm,
    fun ⟨hi, hm, hg⟩ r hres => ?_⟩
  have := (first r hres).2 hi hm
  rw [hg] at this; cases this

/-! ### variant-level attributes -/

/-- a variant-level `enum_tools` attribute that is anything other than `rename = "string literal"` is rejected -/
theorem C13_variant_attr (t : Target) (d : Decl) (v : Variant) (hv : v ∈ d.variants)
    (hbad : .badEmit ∈ v.attrs ∨ .badAbort ∈ v.attrs) : ∀ x, expand t d ≠ .ok x := by
  intro x hx
  obtain ⟨hA, hE⟩ := (Variant.attrsOk_iff v).mp ((C12_accept_implies_domain t d x hx).forms v hv).2.1
  exact hbad.elim hE hA

end ET.Thm
