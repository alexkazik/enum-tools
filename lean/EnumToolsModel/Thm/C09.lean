/-
C09 — Modes and auto selection never change observable behaviour.
Corollaries of the refinement layer: every schema of an item equals the same specification
function, and the specification does not take a mode; `resolve` always ends in a concrete, legal mode.
-/
import EnumToolsModel.Thm.C07
import EnumToolsModel.Thm.C04
import EnumToolsModel.Thm.C10
import EnumToolsModel.Thm.C11
namespace ET.Thm
open ET.Generated

/-- as_str (hence Display, Debug, IntoStr): the same name in every mode -/
theorem C09_asStr (D : Derive) (t : Target) (h : D.WF) (ht : t.WF) (m1 m2 : Mode3) (v : Int) (hv : v ∈ D.vals) :
    asStr D t m1 v = asStr D t m2 v := by
  obtain ⟨n1, hs1, h1⟩ := C03_asStr D t h ht m1 v hv
  obtain ⟨n2, hs2, h2⟩ := C03_asStr D t h ht m2 v hv
  rw [h1, h2, Option.some.inj (hs1.symm.trans hs2)]

/-- from_str / FromStr: the same answer for every string in every mode -/
theorem C09_fromStr (D : Derive) (h : D.WF) (m1 m2 : Mode3) (s : Name) : fromStr D m1 s = fromStr D m2 s := by
  rw [C04_fromStr D h m1 s, C04_fromStr D h m2 s]

/-- what a history of iterator operations followed by a consuming operation lets one observe -/
def observe (st : Res (IterState Int)) (D : Derive) (ops : List Op) (fin : Fin) : Res (List (Out Int) × OutF Int) :=
  st.bind fun s => (IterState.run (nextFn D) (nextBackFn D) s ops).bind fun r =>
    (IterState.finish (nextFn D) (nextBackFn D) r.1 fin).bind fun o => .ok (r.2, o)

/-- iter(): any two legal modes are observationally equal, for every history -/
theorem C09_iter (D : Derive) (h : D.WF) (m1 m2 : IterMode) (h1 : m1 ≠ .auto) (h2 : m2 ≠ .auto)
    (r1 : m1 = .range → D.gapless = true) (r2 : m2 = .range → D.gapless = true) (ops : List Op) (fin : Fin) :
    observe (iterInit D m1) D ops fin = observe (iterInit D m2) D ops fin := by
  obtain ⟨s1, s1', e1, e2, e3⟩ := C06_iter D h m1 h1 r1 ops fin
  obtain ⟨t1, t1', f1, f2, f3⟩ := C06_iter D h m2 h2 r2 ops fin
  simp only [observe, e1, e2, e3, f1, f2, f3, Res.bind_ok]

/-- range(a, b): any two modes that support it are observationally equal, for every pair and history -/
theorem C09_range (D : Derive) (t : Target) (h : D.WF) (ht : t.WF) (m1 m2 : IterMode)
    (h1 : m1 = .range ∨ m1 = .nextAndBack ∨ m1 = .table) (h2 : m2 = .range ∨ m2 = .nextAndBack ∨ m2 = .table)
    (r1 : m1 = .range → D.gapless = true) (r2 : m2 = .range → D.gapless = true)
    (a b : Int) (ha : a ∈ D.vals) (hb : b ∈ D.vals) (ops : List Op) (fin : Fin) :
    observe (rangeInit D t m1 a b) D ops fin = observe (rangeInit D t m2 a b) D ops fin := by
  obtain ⟨s1, s1', e1, e2, e3⟩ := C07_range D t h ht m1 h1 r1 a b ha hb ops fin
  obtain ⟨t1, t1', f1, f2, f3⟩ := C07_range D t h ht m2 h2 r2 a b ha hb ops fin
  simp only [observe, e1, e2, e3, f1, f2, f3, Res.bind_ok]

/-- whatever set of co-enabled features steers `auto`, `resolve` ends in concrete modes for every enabled
feature, and the iterator mode it ends in is one the theorems above cover -/
theorem C09_auto_is_concrete_and_legal (sh : Shape) (fl : Flags) (m : Modes) (fl2 : Flags) (m2 : Modes)
    (h : resolve sh fl m = .ok (fl2, m2)) :
    (.asStr ∈ fl2 → m2.asStr = .match ∨ m2.asStr = .table) ∧
    (.fromStrFn ∈ fl2 → m2.fromStrFn = .match ∨ m2.fromStrFn = .table) ∧
    (.fromStrTrait ∈ fl2 → m2.fromStrTrait = .match ∨ m2.fromStrTrait = .table) ∧
    (.iter ∈ fl2 → m2.iter ≠ .auto ∧ (m2.iter = .range → sh.gapless = true)) ∧
    (.range ∈ fl2 → m2.iter = .range ∨ m2.iter = .nextAndBack ∨ m2.iter = .table) := by
  obtain ⟨h1, h2, h3, h4, h5⟩ := C10_resolved sh fl m fl2 m2 h
  have concrete : ∀ x : Mode3, x ≠ .auto → x = .match ∨ x = .table := fun x hx => by cases x <;> simp at hx ⊢
  refine ⟨fun ha => concrete _ (h1 ha), fun ha => concrete _ (h2 ha), fun ha => concrete _ (h3 ha), h4, fun ha => ?_⟩
  obtain ⟨hi, hti⟩ := h5 ha
  exact IterMode.of_ne _ (h4 hi).1 hti

/-- for a fixed declaration the enum data does not depend on which features are requested: two accepted
configurations of the same variants work on the same `(discriminant, name)` list -/
theorem C09_same_data (t : Target) (d1 d2 : Decl) (x1 x2 : Expansion) (h1 : expand t d1 = .ok x1) (h2 : expand t d2 = .ok x2)
    (hv : d1.variants = d2.variants) : x1.D.sem = x2.D.sem :=
  sem_eq_of_decl_sem_eq h1 h2 (by rw [Decl.sem, hv]; rfl)

/-! ### mode independence of the function bodies translated from /repo/src -/

/-- two resolved configurations of the same enum: every translated string function gives the same result -/
theorem C09_source (D : Derive) (tg : Target) (md1 md2 : Modes) (h : D.WF) (ht : tg.WF) (v : Int) (hv : v ∈ D.vals) (s : Name) :
    (md1.asStr ≠ .auto → md2.asStr ≠ .auto → T.asStr D tg md1 v = T.asStr D tg md2 v) ∧
    (md1.fromStrFn ≠ .auto → md2.fromStrFn ≠ .auto → T.fromStrFn D tg md1 s = T.fromStrFn D tg md2 s) ∧
    (md1.fromStrTrait ≠ .auto → md2.fromStrFn ≠ .auto → T.fromStrTrait D tg md1 s = T.fromStrFn D tg md2 s) ∧
    (T.next D tg md1 v = T.next D tg md2 v ∧ T.nextBack D tg md1 v = T.nextBack D tg md2 v) := by
  refine ⟨fun a b => ?_, fun a b => ?_, fun a b => ?_, ?_⟩
  · obtain ⟨n1, s1, e1, _⟩ := C03_source D tg md1 h ht a v hv
    obtain ⟨n2, s2, e2, _⟩ := C03_source D tg md2 h ht b v hv
    rw [e1, e2, Option.some.inj (s1.symm.trans s2)]
  · rw [(C04_source D tg md1 h s).1 a, (C04_source D tg md2 h s).1 b]
  · rw [(C04_source D tg md1 h s).2 a, (C04_source D tg md2 h s).1 b]
  · rw [(C05_source D tg md1 h v hv).1, (C05_source D tg md2 h v hv).1, (C05_source D tg md1 h v hv).2, (C05_source D tg md2 h v hv).2]
    exact ⟨rfl, rfl⟩

/-- two resolved iterator modes: the translated `iter()` gives the same observations under every history -/
theorem C09_source_iter (D : Derive) (tg : Target) (md1 md2 : Modes) (h : D.WF) (ht : tg.WF)
    (h1 : md1.iter ≠ .auto) (h2 : md2.iter ≠ .auto) (r1 : md1.iter = .range → D.gapless = true) (r2 : md2.iter = .range → D.gapless = true)
    (ops : List Op) (fin : Fin) :
    ∃ s1 s1' s2 s2' outs o, T.iter D tg md1 = .ok s1 ∧ T.iter D tg md2 = .ok s2 ∧
      T.runT D tg md1 s1 ops = .ok (s1', outs) ∧ T.runT D tg md2 s2 ops = .ok (s2', outs) ∧
      T.finishT D tg md1 s1' fin = .ok o ∧ T.finishT D tg md2 s2' fin = .ok o := by
  obtain ⟨s1, s1', a1, a2, a3⟩ := C06_source D tg md1 h ht h1 r1 ops fin
  obtain ⟨s2, s2', b1, b2, b3⟩ := C06_source D tg md2 h ht h2 r2 ops fin
  exact ⟨s1, s1', s2, s2', _, _, a1, b1, a2, b2, a3, b3⟩

end ET.Thm
