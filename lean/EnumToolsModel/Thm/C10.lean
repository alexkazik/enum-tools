/-
C10 — Every documented combination of features, modes and parameters compiles.   (partial)
Proved, over the modules regenerated from /repo/src on this run, for *all* feature subsets, modes
and both shapes at once (no enumeration of configurations):
  * a configuration that is legal per the documentation never reaches an `abort!`;
  * after `resolve`, no enabled feature is left in mode `auto`, and the mode of `iter` is legal;
  * closure: every helper item that a template of an enabled feature references (in the mode it
    ends up in, on that shape) is itself enabled — so it is generated;
  * everything the documentation names (features, parameters, modes, visibilities) is accepted by
    the attribute parser — except `iter(mode = "match")`, for which the negation is proved (known finding);
  * splitting the features over several attributes is the same as listing them in one;
  * no template of a gapless branch refers to the run table;
  * the whole pipeline in one statement (`C10_enabled_items_meet_spec`): what an accepted derive emits computes the
    specification of the enum the language defines.
Not proved: that rustc type-checks the emitted text (sampled by the probes).
-/
import EnumToolsModel.Lemmas.C10Aux
import EnumToolsModel.Thm.C01
import EnumToolsModel.Thm.C07
import EnumToolsModel.Thm.C08
import EnumToolsModel.Thm.C11
namespace ET.Thm
open ET.Generated

/-! ### legality as the documentation states it -/

/-- a legal configuration never reaches an `abort!` -/
theorem C10_legal_no_abort (sh : Shape) (fl : Flags) (m : Modes) (hl : LegalCfg sh fl m) :
    ∃ r, resolve sh fl m = .ok r := by
  have hr := userOnly_afterAuto sh fl m .range (by decide)
  have hi := userOnly_afterAuto sh fl m .iter (by decide)
  refine ⟨(_, _), (resolve_ok sh fl m _ _).mpr ⟨(no_abort_iff sh fl m).mpr hl, rfl, ?_, rfl⟩⟩
  -- the configuration is still legal after `auto`
  rw [no_abort_iff sh, LegalCfg]
  by_cases hauto : m.iter = .auto
  · have ha := autoModes_iter_auto sh (afterAuto sh fl m) m hauto
    exact ⟨fun h => ⟨hi.mpr (hl.1 (hr.mp h)).1, fun hti => ha.2 hti h⟩, fun _ => ha.1⟩
  · rw [(autoModes_keep sh _ m).2.2.2 hauto]
    exact ⟨fun h => ⟨hi.mpr (hl.1 (hr.mp h)).1, (hl.1 (hr.mp h)).2⟩, fun h => hl.2 (hi.mp h)⟩

/-! ### after `resolve` -/

/-- after `resolve`: no enabled feature is in mode `auto`; `iter` in range mode only on gapless enums;
`range` only together with `iter`, never with table_inline -/
theorem C10_resolved (sh : Shape) (fl : Flags) (m : Modes) (fl2 : Flags) (m2 : Modes) (h : resolve sh fl m = .ok (fl2, m2)) :
    (.asStr ∈ fl2 → m2.asStr ≠ .auto) ∧ (.fromStrFn ∈ fl2 → m2.fromStrFn ≠ .auto) ∧ (.fromStrTrait ∈ fl2 → m2.fromStrTrait ≠ .auto) ∧
    (.iter ∈ fl2 → m2.iter ≠ .auto ∧ (m2.iter = .range → sh.gapless = true)) ∧
    (.range ∈ fl2 → .iter ∈ fl2 ∧ m2.iter ≠ .tableInline) := by
  obtain ⟨_, hm2, hab2, hfl2⟩ := (resolve_ok sh fl m fl2 m2).mp h
  have ham := autoModes_ne_auto sh (afterAuto sh fl m) m
  rw [← hm2] at ham
  have hleg := (no_abort_iff sh _ m2).mp hab2
  -- a user-only flag is enabled after the second pass iff it was after `auto`
  have back : ∀ f ∈ userOnly, f ∈ fl2 ↔ f ∈ afterAuto sh fl m := fun f hf => by
    rw [hfl2]; exact userOnly_run m2 sh.gapless _ hf
  refine ⟨fun ha => ham.1 (asStr_stable sh fl m m2 (hfl2 ▸ ha)), fun ha => ham.2.1 ((back _ (by decide)).mp ha),
    fun ha => ham.2.2.1 ((back _ (by decide)).mp ha), fun ha => ?_, fun ha => ?_⟩
  · have hi := (back _ (by decide)).mp ha
    exact ⟨ham.2.2.2 hi, hleg.2 hi⟩
  · obtain ⟨hi, hti⟩ := hleg.1 ((back _ (by decide)).mp ha)
    exact ⟨(back _ (by decide)).mpr hi, hti⟩

/-! ### closure: everything a template references is generated -/

/-- After `resolve`, for every enabled feature, every helper item its templates reference — in the mode it
was resolved to, on this shape — is enabled as well (with the numeric offset when the template reads it).
For all feature subsets, all modes, both shapes. -/
theorem C10_closure (sh : Shape) (fl : Flags) (m : Modes) (fl2 : Flags) (m2 : Modes) (h : resolve sh fl m = .ok (fl2, m2))
    (f : Flag) (hf : f ∈ fl2) (u : Flag) (hu : u ∈ uses f m2 sh.gapless) : u ∈ fl2 := by
  obtain ⟨_, _, hab2, hfl2⟩ := (resolve_ok sh fl m fl2 m2).mp h
  have hsat := run_sat m2 sh.gapless rules (afterAuto sh fl m) rules_ordered
  rw [← hfl2] at hsat
  -- the seed is enabled: f itself, and what f aborts without
  have hseed : ∀ x ∈ seedOf f, x ∈ fl2 := by
    intro x hx
    rcases (mem_seedOf f x).mp hx with rfl | ⟨a, ha, hsrc, hguard, hunset, hx⟩
    · exact hf
    · -- no rule sets f, so it was enabled before the second pass, whose `abort!`s stayed silent
      have hf1 : f ∈ afterAuto sh fl m := (run_frame m2 sh.gapless rules _ f hunset).mp (hfl2 ▸ hf)
      obtain ⟨y, hy, hy1⟩ := (abortFires_eq_false m2 sh.gapless _ a).mp (by simpa using List.find?_eq_none.mp hab2 a ha)
        (hsrc ▸ hf1) (by rw [hguard]; rfl)
      rw [hx] at hy; cases hy
      rw [hfl2]; exact run_mono m2 sh.gapless rules _ _ hy1
  exact closed_subset m2 sh.gapless fl2 rules hsat (seedOf f) hseed u (uses_subset_closure f u m2 sh.gapless hu)

/-- no template of a gapless branch refers to `__RANGES` or to its offsets (the table is only emitted for enums with holes) -/
theorem C10_no_table_range_when_gapless :
    (Flag.all.all fun f => Modes.all.all fun m => !(uses f m true).contains .tableRange && !(uses f m true).contains .tableRangeOfs) = true := by
  simp only [List.all_eq_true, Bool.and_eq_true, Bool.not_eq_true', List.contains_eq_mem, decide_eq_false_iff_not]
  exact fun f _ m _ => ⟨fun hm => (uses_gapless f _ m hm).1 rfl, fun hm => (uses_gapless f _ m hm).2 rfl⟩

/-! ### the documentation is accepted -/

/-- every documented feature exists, with every documented parameter; `sorted` is parsed separately with `name`, `value` -/
theorem C10_docs_features_and_params :
    (docFeatures.all (fun d =>
      if d.key == "sorted" then d.params.all (fun p => p == "name" || p == "value")
      else match specOf d.key with
        | some s => (documentedParams d).all (fun p => (acceptedParams s).contains p)
        | none => false)) = true := by
  decide +kernel

/-- every documented mode value is accepted — except `iter(mode = "match")` -/
theorem C10_docs_modes_partial :
    (docFeatures.all (fun d => d.modes.all (fun mo =>
      (d.key == "iter" && mo == "match") ||
      (match specOf d.key with | some s => s.modes.contains mo | none => false)))) = true := by
  decide +kernel

/-- the documented visibility values are the accepted ones -/
theorem C10_docs_vis : docVisValues = ["", "pub(crate)", "pub"] := by decide +kernel

/-! ### "each item enabled this way then satisfies its own guarantee" -/

/-- The whole pipeline, for every declaration and configuration the derive accepts: the enum the derive works with is
the enum the language defines (`d.sem`, rustc's own discriminant rule), and every function body the templates contain —
as translated from /repo/src on this run, in the modes `resolve` ended in — computes the specification of *that* enum:
for every value of the repr type, every variant, every string, every finite iterator history. -/
theorem C10_enabled_items_meet_spec (t : Target) (ht : t.WF) (d : Decl) (x : Expansion) (h : expand t d = .ok x)
    (hr : RustcAcceptsEnum x) :
    ∃ E, d.sem = some E ∧ E.discs = x.D.vals ∧
      (∀ n, x.D.repr.InRange n →
        T.tryFromFn x.D t x.modes n = .ok (spec.tryFrom E n) ∧ T.tryFromTrait x.D t x.modes n = .ok (spec.tryFrom E n)) ∧
      (∀ v ∈ E.discs,
        T.intoFn x.D t x.modes v = .ok (spec.into E v) ∧ T.intoTrait x.D t x.modes v = .ok (spec.into E v) ∧
        T.next x.D t x.modes v = .ok (spec.next E v) ∧ T.nextBack x.D t x.modes v = .ok (spec.nextBack E v)) ∧
      (.asStr ∈ x.flags → ∀ v ∈ E.discs, ∃ nm, spec.asStr E v = some nm ∧ T.asStr x.D t x.modes v = .ok nm ∧
        T.display x.D t x.modes v = .ok nm ∧ T.debug x.D t x.modes v = .ok nm ∧ T.intoStr x.D t x.modes v = .ok nm) ∧
      (.fromStrFn ∈ x.flags → ∀ s, T.fromStrFn x.D t x.modes s = .ok (spec.fromStr E s)) ∧
      (.fromStrTrait ∈ x.flags → ∀ s, T.fromStrTrait x.D t x.modes s = .ok (spec.fromStr E s)) ∧
      (T.names x.D t x.modes = .ok (.cursor (spec.names E))) ∧
      (.iter ∈ x.flags → ∀ (ops : List Op) (fin : Fin), ∃ st st', T.iter x.D t x.modes = .ok st ∧
        T.runT x.D t x.modes st ops = .ok (st', (Cursor.run (spec.iter E) ops).2) ∧
        T.finishT x.D t x.modes st' fin = .ok (Cursor.finish (Cursor.run (spec.iter E) ops).1 fin)) ∧
      (.range ∈ x.flags → ∀ a ∈ E.discs, ∀ b ∈ E.discs, ∀ (ops : List Op) (fin : Fin), ∃ st st',
        T.range x.D t x.modes a b = .ok st ∧
        T.runT x.D t x.modes st ops = .ok (st', (Cursor.run (spec.range E a b) ops).2) ∧
        T.finishT x.D t x.modes st' fin = .ok (Cursor.finish (Cursor.run (spec.range E a b) ops).1 fin)) := by
  have hwf := C11_WF t ht d x h hr
  have hsem := C11_sem t d x h
  obtain ⟨fl, m, hres⟩ := expand_resolved t d x h
  obtain ⟨r1, r2, r3, r4, r5⟩ := C10_resolved _ fl m x.flags x.modes hres
  refine ⟨x.D.sem, hsem, x.D.sem_discs, ?_, ?_, ?_, ?_, ?_, C08_source x.D t x.modes, ?_, ?_⟩
  · intro n hn; exact C01_source_tryFrom x.D t x.modes hwf n hn
  · intro v hv
    rw [x.D.sem_discs] at hv
    exact ⟨(C01_source_into x.D t x.modes hwf v hv).1, (C01_source_into x.D t x.modes hwf v hv).2,
      (C05_source x.D t x.modes hwf v hv).1, (C05_source x.D t x.modes hwf v hv).2⟩
  · intro ha v hv
    rw [x.D.sem_discs] at hv
    exact C03_source x.D t x.modes hwf ht (r1 ha) v hv
  · intro ha s; exact (C04_source x.D t x.modes hwf s).1 (r2 ha)
  · intro ha s; exact (C04_source x.D t x.modes hwf s).2 (r3 ha)
  · intro ha ops fin
    exact C06_source x.D t x.modes hwf ht (r4 ha).1 (r4 ha).2 ops fin
  · intro ha a hav b hbv ops fin
    rw [x.D.sem_discs] at hav hbv
    obtain ⟨hi, hni⟩ := r5 ha
    obtain ⟨hna, hrg⟩ := r4 hi
    exact C07_source x.D t x.modes hwf ht (IterMode.of_ne _ hna hni) hrg a b hav hbv ops fin

/-! ### one attribute or several -/

/-- splitting the features over several `#[enum_tools(..)]` attributes is equivalent to listing them in one -/
theorem C10_split_equiv (st : AttrsOut) (a b : List CfgItem) (rest : List EAttr) :
    parseAttrs st (.enumTools (some (a ++ b)) :: rest) = parseAttrs st (.enumTools (some a) :: .enumTools (some b) :: rest) := by
  simp only [parseAttrs, parseItems_append]
  cases parseItems st.fm st.errs a with
  | none => rfl
  | some r => obtain ⟨fm, e⟩ := r; rfl

end ET.Thm
