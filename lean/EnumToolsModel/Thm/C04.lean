/-
C04 — from_str/FromStr accept exactly the variant names and invert as_str.
The function and the trait share the model (`fromStr` with the mode each resolved to); the driver
runs both against it.
-/
import EnumToolsModel.Lemmas.Scan
import EnumToolsModel.Thm.C03
import EnumToolsModel.Lemmas.TemplatesEq
namespace ET.Thm

/-- match mode, for every string -/
theorem C04_fromStr_match (D : Derive) (s : Name) : fromStrMatch D s = .ok (spec.fromStr D.sem s) := by
  rw [spec_fromStr_values]
  unfold fromStrMatch
  cases D.values.find? (fun x => decide (x.2.2 = s)) with
  | none => rfl
  | some x => obtain ⟨d, i, n⟩ := x; rfl

/-- table mode with holes, for every string -/
theorem C04_fromStr_table_holes (D : Derive) (s : Name) : fromStrTableHoles D s = .ok (spec.fromStr D.sem s) := by
  unfold fromStrTableHoles
  rw [fromStrTableHolesLoop_eq, D.zip_tables]
  rfl

/-- table mode, gapless, for every string: the index is turned back into the discriminant `MIN + i` -/
theorem C04_fromStr_table_gapless (D : Derive) (h : D.WF) (hg : D.gapless = true) (s : Name) :
    fromStrTableGapless D s = .ok (spec.fromStr D.sem s) := by
  rw [spec_fromStr_values]
  exact fromStrTableGaplessLoop_eq D h hg s D.values 0 (by simpa [Derive.vals] using h.gapless_interval hg)

/-- from_str / FromStr, every mode, every shape, every string: `Some(v)` for the variant with the
lowest discriminant among those named `s`, `None` when no variant has that name -/
theorem C04_fromStr (D : Derive) (h : D.WF) (m : Mode3) (s : Name) :
    fromStr D m s = .ok (spec.fromStr D.sem s) := by
  -- the arms of `fromStr`: table mode without and with holes; every other mode is read as match
  fun_cases fromStr D m s with
  | case1 hg => exact C04_fromStr_table_gapless D h hg s
  | case2 hg => exact C04_fromStr_table_holes D s
  | case3 m hm => exact C04_fromStr_match D s

/-- success iff `s` is byte-for-byte the name of some variant -/
theorem C04_accepts_exactly_names (D : Derive) (s : Name) :
    (spec.fromStr D.sem s).isSome ↔ s ∈ D.sem.names := by
  unfold spec.fromStr EnumSem.names
  rw [Option.isSome_map, List.find?_isSome]
  simp only [decide_eq_true_eq, List.mem_map]

/-- the variant returned is named `s`: `as_str(from_str(s)) == s` -/
theorem C04_asStr_of_fromStr (D : Derive) (h : D.WF) (s : Name) (v : Int) (hf : spec.fromStr D.sem s = some v) :
    spec.asStr D.sem v = some s ∧ v ∈ D.vals := by
  rw [spec.fromStr, Option.map_eq_some_iff] at hf
  obtain ⟨x, hx, rfl⟩ := hf
  have hs : x.2 = s := by simpa using List.find?_some hx
  have hmem := List.mem_of_find?_eq_some hx
  constructor
  · rw [h.spec_asStr_of_mem hmem, hs]
  · rw [← D.sem_discs]; exact List.mem_map_of_mem hmem

/-- if names are pairwise distinct then `from_str(as_str(v)) == Some(v)` -/
theorem C04_fromStr_of_asStr (D : Derive) (_h : D.WF) (hd : D.sem.names.Pairwise (· ≠ ·)) (v : Int) (n : Name)
    (ha : spec.asStr D.sem v = some n) : spec.fromStr D.sem n = some v := by
  rw [spec.asStr, Option.map_eq_some_iff] at ha
  obtain ⟨x, hx, rfl⟩ := ha
  have hv : x.1 = v := by simpa using List.find?_some hx
  rw [spec.fromStr, find_of_mem (·.2) D.sem.items hd x (List.mem_of_find?_eq_some hx), Option.map_some, hv]

/-- every string that is not a name is rejected -/
theorem C04_rejects_non_names (D : Derive) (s : Name) (hs : s ∉ D.sem.names) : spec.fromStr D.sem s = none :=
  Option.not_isSome_iff_eq_none.mp (mt (C04_accepts_exactly_names D s).mp hs)

/-- with distinct names `as_str` is injective: two variants never print the same -/
theorem C04_asStr_injective (D : Derive) (h : D.WF) (hd : D.sem.names.Pairwise (· ≠ ·)) (v w : Int) (n : Name)
    (hv : spec.asStr D.sem v = some n) (hw : spec.asStr D.sem w = some n) : v = w := by
  have a := C04_fromStr_of_asStr D h hd v n hv
  have b := C04_fromStr_of_asStr D h hd w n hw
  rw [a] at b; injection b

/-- when several variants share a name, the one returned is the one with the lowest discriminant —
a function of the discriminant-to-name map alone, hence the same in every mode -/
theorem C04_lowest_shared (D : Derive) (h : D.WF) (s : Name) (v : Int) (hf : spec.fromStr D.sem s = some v) :
    ∀ p ∈ D.sem.items, p.2 = s → v ≤ p.1 := by
  rw [spec.fromStr, Option.map_eq_some_iff] at hf
  obtain ⟨q, hq, rfl⟩ := hf
  -- `q` is the first item named `s`, and the items ascend by discriminant
  have hs : D.sem.items.Pairwise (fun a b => a.1 < b.1) := List.pairwise_map.mp h.sem_sorted
  exact fun p hp hps => find?_key_le (·.1) hs hq p hp (decide_eq_true hps)

/-- non-vacuity: renamed variant, identifier of a renamed variant is rejected, other case is rejected -/
example : exD1.WF ∧ fromStr exD1 .table [98, 98] = .ok (some (-5)) ∧ fromStr exD1 .table [66] = .ok none
    ∧ fromStr exD1 .match [97] = .ok none ∧ fromStr exD2 .table [67] = .ok (some 255) := by
  refine ⟨exD1_WF, by decide, by decide, by decide, by decide⟩

/-- `from_str` / `FromStr` as the source is written now (`Generated/Templates.lean`), in every resolved mode, for every string -/
theorem C04_source (D : Derive) (tg : Target) (md : Modes) (h : D.WF) (s : Name) :
    (md.fromStrFn ≠ .auto → T.fromStrFn D tg md s = .ok (spec.fromStr D.sem s)) ∧
    (md.fromStrTrait ≠ .auto → T.fromStrTrait D tg md s = .ok (spec.fromStr D.sem s)) :=
  ⟨fun hm => by rw [T.fromStrFn_eq D tg md h hm s]; exact C04_fromStr D h _ s,
   fun hm => by rw [T.fromStrTrait_eq D tg md h hm s]; exact C04_fromStr D h _ s⟩

/-- with pairwise distinct names the translated `from_str` inverts the translated `as_str` -/
theorem C04_source_roundtrip (D : Derive) (tg : Target) (md : Modes) (h : D.WF) (ht : tg.WF)
    (hd : D.sem.names.Pairwise (· ≠ ·)) (ha : md.asStr ≠ .auto) (hf : md.fromStrFn ≠ .auto) (v : Int) (hv : v ∈ D.vals) :
    (T.asStr D tg md v).bind (fun n => T.fromStrFn D tg md n) = .ok (some v) := by
  obtain ⟨n, hs, e, _⟩ := C03_source D tg md h ht ha v hv
  rw [e, Res.bind_ok, (C04_source D tg md h n).1 hf, C04_fromStr_of_asStr D h hd v n hs]

end ET.Thm
