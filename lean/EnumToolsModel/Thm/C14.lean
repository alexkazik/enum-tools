/-
C14 — sorted(name) / sorted(value) compile iff the declaration is strictly sorted.
Stated over the clean runs of the value parser (`C14_sorted_iff`) and, for what the derive accepts, over `expand`.
-/
import EnumToolsModel.Lemmas.C14Aux
import EnumToolsModel.Thm.C11
namespace ET.Thm

/-- `sorted(name)` / `sorted(value)` accept exactly the declarations whose variants are declared in strictly
ascending (byte-wise) name order / strictly ascending discriminant order — all other conditions of
acceptance being those of the run without `sorted` -/
theorem C14_sorted_iff (n vb : Bool) (vs : List Variant) (l : List (Int × Name)) (hl : rustcDiscs 0 vs = some l) :
    (∃ st', pvLoop ⟨n, vb⟩ { errs := [] } vs = some st' ∧ st'.errs = []) ↔
      ((∃ st', pvLoop {} { errs := [] } vs = some st' ∧ st'.errs = []) ∧
        (n = true → AscFrom (· < ·) none (vs.map (·.name))) ∧
        (vb = true → AscFrom (· < ·) none (l.map (·.1)))) := by
  have clean : ∀ s, (∃ st', pvLoop s { errs := [] } vs = some st' ∧ st'.errs = []) ↔ ∃ st', CleanFrom s { errs := [] } vs st' :=
    fun s => exists_congr fun st' => pvLoop_clean_iff s vs { errs := [] } st' (by decide) (by decide)
  have key := clean_sorted_iff n vb vs { errs := [] } { errs := [] } rfl rfl (by simp) l hl
  simp only [if_true] at key
  rw [clean, clean]
  exact key

/-- at the level of the whole derive: an accepted declaration with `sorted(..)` is sorted as requested -/
theorem C14_accept_implies_sorted (t : Target) (d : Decl) (x : Expansion) (h : expand t d = .ok x) :
    (x.sorted.name = true → AscFrom (· < ·) none (d.variants.map (·.name))) ∧
    (x.sorted.value = true → AscFrom (· < ·) none (x.D.sem.discs)) := by
  obtain ⟨pv, hpv, hpverrs, _⟩ := expand_values t d x h
  obtain ⟨_, l, hl, _, _, hnd, _⟩ := pvLoop_clean_discs _ _ _ hpv hpverrs
  have := (C14_sorted_iff x.sorted.name x.sorted.value d.variants l hl).mp ⟨pv, hpv, hpverrs⟩
  refine ⟨this.2.1, fun hv => ?_⟩
  have hasc := this.2.2 hv
  have hsem : some (EnumSem.mk (sortByDisc l)) = some x.D.sem := by rw [← C11_sem t d x h, Decl.sem, hl]; rfl
  rw [← Option.some.inj hsem]
  show AscFrom (· < ·) none ((sortByDisc l).map (·.1))
  -- in declaration order the discriminants ascend, so the sorted list *is* the declared list
  have hp : l.Pairwise (fun a b => a.1 ≤ b.1) := (List.pairwise_map.mp hasc.pairwise.1).imp Int.le_of_lt
  rw [sorted_perm_unique (·.1) hnd (sortByDisc_perm l) (.refl l) (sortByDisc_sorted l) hp]
  exact hasc

/-- `sorted`, `sorted(name)`, `sorted(value)`, `sorted(name, value)` set the flags; anything else inside is an error -/
theorem C14_parseSorted :
    (parseSorted [("sorted", [("name", none)])]).1 = ⟨true, false⟩ ∧ (parseSorted [("sorted", [("value", none)])]).1 = ⟨false, true⟩ ∧
    (parseSorted [("sorted", [("name", none), ("value", none)])]).1 = ⟨true, true⟩ ∧ (parseSorted []).1 = ⟨false, false⟩ ∧
    (parseSorted [("sorted", [("names", none)])]).2.2 = [.unknownParameter] ∧
    (parseSorted [("sorted", [("name", some (.str "x"))])]).2.2 = [.unexpectedLiteral] := by
  refine ⟨by decide, by decide, by decide, by decide, by decide, by decide⟩

/-- non-vacuity: byte-wise name order (upper case before lower case), equal names are not ascending -/
example : AscFrom (· < ·) none ([[73, 79], [73, 100], [73, 111]] : List Name) ∧ ¬ AscFrom (· < ·) none ([[73, 100], [73, 79]] : List Name)
    ∧ ¬ AscFrom (· < ·) none ([[65], [65]] : List Name) := by
  refine ⟨by simp [AscFrom] <;> decide, by simp [AscFrom] <;> decide, by simp [AscFrom]⟩

end ET.Thm
