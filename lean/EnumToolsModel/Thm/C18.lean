/-
C18 — Behaviour depends only on the discriminant-to-name map, not on order or repr.
Corollaries: every schema equals a specification function of `D.sem` alone; and the meaning of a
declaration does not depend on the order of its (explicitly numbered) variants.
-/
import EnumToolsModel.Thm.C01
import EnumToolsModel.Thm.C04
import EnumToolsModel.Thm.C05
import EnumToolsModel.Thm.C11
import EnumToolsModel.Lemmas.ReprTableEq
namespace ET.Thm

/-- the repr table as written in `parser/mod.rs` on this run is the model's (same reprs, same size guesses, unsigned companion of
the same width): what makes the results independent of the repr also rests on it -/
theorem C18_repr_table_source (t : Target) :
    (ET.Generated.reprArms.all (armAgrees t)) = true
    ∧ (∀ r, (reprTable t r).isSome ↔ r ∈ ET.Generated.reprArms.map (·.1)) := repr_table_source t

/-- two derives (any reprs, any declaration orders, any modes) with the same discriminant-to-name map give
the same results for every item and every input -/
theorem C18_same_map_same_results (D1 D2 : Derive) (t : Target) (h1 : D1.WF) (h2 : D2.WF) (ht : t.WF) (hs : D1.sem = D2.sem) :
    (∀ n, tryFromFn D1 n = tryFromFn D2 n ∧ tryFromTrait D1 n = tryFromTrait D2 n) ∧
    (∀ v ∈ D1.vals, nextFn D1 v = nextFn D2 v ∧ nextBackFn D1 v = nextBackFn D2 v) ∧
    (minC D1 = minC D2 ∧ maxC D1 = maxC D2) ∧
    (∀ m1 m2 v, v ∈ D1.vals → asStr D1 t m1 v = asStr D2 t m2 v) ∧
    (∀ m1 m2 s, fromStr D1 m1 s = fromStr D2 m2 s) ∧
    (spec.iter D1.sem = spec.iter D2.sem ∧ spec.names D1.sem = spec.names D2.sem ∧ ∀ a b, spec.range D1.sem a b = spec.range D2.sem a b) := by
  have hvals : D1.vals = D2.vals := by rw [← D1.sem_discs, ← D2.sem_discs, hs]
  refine ⟨fun n => ?_, fun v hv => ?_, ?_, fun m1 m2 v hv => ?_, fun m1 m2 s => ?_, by rw [hs]; exact ⟨rfl, rfl, fun _ _ => rfl⟩⟩
  · rw [C01_tryFromFn D1 h1, C01_tryFromFn D2 h2, C01_tryFromTrait D1 h1, C01_tryFromTrait D2 h2, hs]; exact ⟨rfl, rfl⟩
  · have hv2 : v ∈ D2.vals := hvals ▸ hv
    rw [C05_next D1 h1 v hv, C05_next D2 h2 v hv2, C05_nextBack D1 h1 v hv, C05_nextBack D2 h2 v hv2, hs]; exact ⟨rfl, rfl⟩
  · obtain ⟨a1, b1, _⟩ := C05_min_max D1 h1
    obtain ⟨a2, b2, _⟩ := C05_min_max D2 h2
    rw [hs] at a1 b1
    exact ⟨Option.some.inj (a1.symm.trans a2), Option.some.inj (b1.symm.trans b2)⟩
  · have hv2 : v ∈ D2.vals := hvals ▸ hv
    obtain ⟨n1, s1, e1⟩ := C03_asStr D1 t h1 ht m1 v hv
    obtain ⟨n2, s2, e2⟩ := C03_asStr D2 t h2 ht m2 v hv2
    rw [hs, s2] at s1; cases s1; rw [e1, e2]
  · rw [C04_fromStr D1 h1 m1 s, C04_fromStr D2 h2 m2 s, hs]

/-- the entry of a variant whose discriminant is written explicitly -/
def explicitEntry (v : Variant) : Option (Int × Name) := (v.disc.bind (·.value?)).map (fun i => (i, v.name))

/-- all discriminants written explicitly: the language's assignment is a plain map over the variants -/
theorem rustcDiscs_explicit : ∀ (vs : List Variant) (nxt : Int), (∀ v ∈ vs, ∃ e i, v.disc = some e ∧ e.value? = some i) →
    rustcDiscs nxt vs = some (vs.filterMap explicitEntry) := by
  intro vs
  induction vs with
  | nil => intro nxt _; rfl
  | cons v rest ih =>
    intro nxt hex
    obtain ⟨e, i, he, hi⟩ := hex v (by simp)
    have := ih (i + 1) (fun w hw => hex w (by simp [hw]))
    simp [rustcDiscs, he, hi, this, explicitEntry]

/-- permuting the declaration order of variants whose discriminants are all explicit (and distinct) does
not change the meaning of the declaration — hence, by `C11_sem`, not the data the derive works with -/
theorem C18_order_independent (d1 d2 : Decl) (hp : d1.variants.Perm d2.variants)
    (hex : ∀ v ∈ d1.variants, ∃ e i, v.disc = some e ∧ e.value? = some i)
    (hnd : ((d1.variants.filterMap explicitEntry).map (·.1)).Nodup) : d1.sem = d2.sem := by
  have h1 := rustcDiscs_explicit d1.variants 0 hex
  have h2 := rustcDiscs_explicit d2.variants 0 (fun v hv => hex v (hp.mem_iff.mpr hv))
  unfold Decl.sem
  rw [h1, h2]
  simp only [Option.map_some, Option.some.injEq, EnumSem.mk.injEq]
  exact sortByDisc_perm_invariant _ _ (hp.filterMap _) hnd

/-- consequently two accepted derives on declarations that differ only in the order of their (explicitly
numbered) variants — and possibly in repr — work on the same discriminant-to-name map -/
theorem C18_derive_order_repr_independent (t1 t2 : Target) (d1 d2 : Decl) (x1 x2 : Expansion)
    (h1 : expand t1 d1 = .ok x1) (h2 : expand t2 d2 = .ok x2) (hp : d1.variants.Perm d2.variants)
    (hex : ∀ v ∈ d1.variants, ∃ e i, v.disc = some e ∧ e.value? = some i)
    (hnd : ((d1.variants.filterMap explicitEntry).map (·.1)).Nodup) : x1.D.sem = x2.D.sem :=
  sem_eq_of_decl_sem_eq h1 h2 (C18_order_independent d1 d2 hp hex hnd)

/-- the same for the function bodies translated from /repo/src: two derives with the same discriminant-to-name map
(any reprs, any declaration orders, any resolved modes, any targets) -/
theorem C18_source (D1 D2 : Derive) (t1 t2 : Target) (m1 m2 : Modes) (h1 : D1.WF) (h2 : D2.WF) (ht1 : t1.WF) (ht2 : t2.WF)
    (hs : D1.sem = D2.sem) :
    (∀ n, D1.repr.InRange n → D2.repr.InRange n → T.tryFromFn D1 t1 m1 n = T.tryFromFn D2 t2 m2 n) ∧
    (∀ v ∈ D1.vals, T.next D1 t1 m1 v = T.next D2 t2 m2 v ∧ T.nextBack D1 t1 m1 v = T.nextBack D2 t2 m2 v) ∧
    (∀ v ∈ D1.vals, m1.asStr ≠ .auto → m2.asStr ≠ .auto → T.asStr D1 t1 m1 v = T.asStr D2 t2 m2 v) ∧
    (∀ s, m1.fromStrFn ≠ .auto → m2.fromStrFn ≠ .auto → T.fromStrFn D1 t1 m1 s = T.fromStrFn D2 t2 m2 s) := by
  have hvals : D1.vals = D2.vals := by rw [← D1.sem_discs, ← D2.sem_discs, hs]
  refine ⟨fun n a b => ?_, fun v hv => ?_, fun v hv a b => ?_, fun s a b => ?_⟩
  · rw [(C01_source_tryFrom D1 t1 m1 h1 n a).1, (C01_source_tryFrom D2 t2 m2 h2 n b).1, hs]
  · have hv2 : v ∈ D2.vals := hvals ▸ hv
    rw [(C05_source D1 t1 m1 h1 v hv).1, (C05_source D2 t2 m2 h2 v hv2).1, (C05_source D1 t1 m1 h1 v hv).2, (C05_source D2 t2 m2 h2 v hv2).2, hs]
    exact ⟨rfl, rfl⟩
  · have hv2 : v ∈ D2.vals := hvals ▸ hv
    obtain ⟨n1, s1, e1, _⟩ := C03_source D1 t1 m1 h1 ht1 a v hv
    obtain ⟨n2, s2, e2, _⟩ := C03_source D2 t2 m2 h2 ht2 b v hv2
    rw [hs, s2] at s1; cases s1; rw [e1, e2]
  · rw [(C04_source D1 t1 m1 h1 s).1 a, (C04_source D2 t2 m2 h2 s).1 b, hs]

end ET.Thm
