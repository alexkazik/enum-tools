/-
C01 — try_from/TryFrom is the exact partial inverse of into/Into over all repr values.
Helper lemmas live in `Lemmas/`.
-/
import EnumToolsModel.Lemmas.Scan
import EnumToolsModel.Lemmas.Examples
import EnumToolsModel.Lemmas.TemplatesEq
namespace ET.Thm

/-- `try_from(n)` is `Some(variant with discriminant n)` when one exists and `None` otherwise — for
every integer `n`, every well-formed derive, gapless or with holes; in particular never UB, never a panic. -/
theorem C01_tryFromFn (D : Derive) (h : D.WF) (n : Int) :
    tryFromFn D n = .ok (spec.tryFrom D.sem n) := by
  unfold tryFromFn spec.tryFrom tryFromGapless tryFromHoles minC maxC
  rw [D.sem_discs, tryFromScan_eq, h.table.2.1]
  by_cases hm : n ∈ D.vals
  · -- a variant lies within the bounds, and `transmute` is defined on it
    simp [hm, transmute_of_mem, h.minKey_le n hm, h.le_maxKey n hm]
  · -- not a variant.  Gapless: the bound test is the membership test; with holes: the scan finds no run
    simp only [hm, if_false, ite_self]
    split
    · rename_i hg
      exact if_neg fun hb => hm ((h.mem_gapless hg n).mpr hb)
    · rfl

/-- `TryFrom::try_from`: the same for the trait's own copy of both bodies -/
theorem C01_tryFromTrait (D : Derive) (h : D.WF) (n : Int) :
    tryFromTrait D n = .ok (spec.tryFrom D.sem n) := by
  rw [tryFromTrait_eq_fn, C01_tryFromFn D h n]

/-- `into` and `Into` return exactly the discriminant -/
theorem C01_into (D : Derive) (v : Int) : intoFn D v = spec.into D.sem v ∧ intoTrait D v = spec.into D.sem v :=
  ⟨rfl, rfl⟩

/-- `try_from(into(v)) == Some(v)` for every variant -/
theorem C01_roundtrip (D : Derive) (h : D.WF) (v : Int) (hv : v ∈ D.vals) :
    tryFromFn D (intoFn D v) = .ok (some v) ∧ tryFromTrait D (intoTrait D v) = .ok (some v) := by
  rw [C01_tryFromFn D h, C01_tryFromTrait D h]
  simp [spec.tryFrom, intoFn, intoTrait, hv]

/-- `try_from(n).map(into)` is `Some(n)` or `None`; and whatever is returned is a declared variant -/
theorem C01_partial_inverse (D : Derive) (h : D.WF) (n e : Int) (he : tryFromFn D n = .ok (some e)) :
    intoFn D e = n ∧ e ∈ D.vals := by
  rw [C01_tryFromFn D h, spec.tryFrom, D.sem_discs] at he
  by_cases hm : n ∈ D.vals
  · rw [if_pos hm] at he
    cases he
    exact ⟨rfl, hm⟩
  · rw [if_neg hm] at he
    cases he

/-- the hypotheses are satisfiable: a signed enum with four runs, negative later runs and a run at the type's MAX -/
example : exD1.WF ∧ tryFromFn exD1 (-5) = .ok (some (-5)) ∧ tryFromFn exD1 (-6) = .ok none := by
  refine ⟨exD1_WF, by decide, by decide⟩

/-- `try_from(n)` is `None` exactly when no variant has the discriminant `n` -/
theorem C01_none_iff (D : Derive) (h : D.WF) (n : Int) :
    tryFromFn D n = .ok none ↔ n ∉ D.vals := by
  rw [C01_tryFromFn D h, spec.tryFrom, D.sem_discs]
  by_cases hm : n ∈ D.vals <;> simp [hm]

/-- `try_from` is injective where it succeeds: two integers that convert to the same variant are equal -/
theorem C01_injective (D : Derive) (h : D.WF) (n m e : Int)
    (hn : tryFromFn D n = .ok (some e)) (hm : tryFromFn D m = .ok (some e)) : n = m := by
  have a := (C01_partial_inverse D h n e hn).1
  have b := (C01_partial_inverse D h m e hm).1
  rw [← a, ← b]

/-- non-vacuity: a hole of a signed enum -/
example : exD1.WF ∧ tryFromFn exD1 0 = .ok none ∧ (0 : Int) ∉ exD1.vals := by
  refine ⟨exD1_WF, by decide, by decide⟩

/-! ### the same statements about the function bodies translated from /repo/src (`Generated/Templates.lean`) -/

/-- `try_from(n)` / `TryFrom::try_from(n)` as the source is written now, for every value `n` of the repr type -/
theorem C01_source_tryFrom (D : Derive) (tg : Target) (md : Modes) (h : D.WF) (n : Int) (hn : D.repr.InRange n) :
    T.tryFromFn D tg md n = .ok (spec.tryFrom D.sem n) ∧ T.tryFromTrait D tg md n = .ok (spec.tryFrom D.sem n) :=
  ⟨by rw [T.tryFromFn_eq D tg md h n hn]; exact C01_tryFromFn D h n,
   by rw [T.tryFromTrait_eq D tg md h n hn]; exact C01_tryFromTrait D h n⟩

/-- `into(v)` / `R::from(v)` as the source is written now -/
theorem C01_source_into (D : Derive) (tg : Target) (md : Modes) (h : D.WF) (v : Int) (hv : v ∈ D.vals) :
    T.intoFn D tg md v = .ok (spec.into D.sem v) ∧ T.intoTrait D tg md v = .ok (spec.into D.sem v) :=
  ⟨by rw [T.intoFn_eq D tg md h v hv, (C01_into D v).1], by rw [T.intoTrait_eq D tg md h v hv, (C01_into D v).2]⟩

/-- `try_from(into(v)) == Some(v)` for the translated bodies, function and trait forms -/
theorem C01_source_roundtrip (D : Derive) (tg : Target) (md : Modes) (h : D.WF) (v : Int) (hv : v ∈ D.vals) :
    (T.intoFn D tg md v).bind (fun n => T.tryFromFn D tg md n) = .ok (some v) ∧
    (T.intoTrait D tg md v).bind (fun n => T.tryFromTrait D tg md n) = .ok (some v) := by
  obtain ⟨r1, r2⟩ := C01_roundtrip D h v hv
  have hr := h.inRange v hv
  exact ⟨by rw [T.intoFn_eq D tg md h v hv, Res.bind_ok, T.tryFromFn_eq D tg md h (intoFn D v) hr, r1],
    by rw [T.intoTrait_eq D tg md h v hv, Res.bind_ok, T.tryFromTrait_eq D tg md h (intoTrait D v) hr, r2]⟩

/-- the same over the translated source: within the repr's range, `None` exactly off the discriminants -/
theorem C01_source_none_iff (D : Derive) (tg : Target) (md : Modes) (h : D.WF) (n : Int) (hn : D.repr.InRange n) :
    T.tryFromFn D tg md n = .ok none ↔ n ∉ D.vals := by
  rw [T.tryFromFn_eq D tg md h n hn]
  exact C01_none_iff D h n

end ET.Thm
