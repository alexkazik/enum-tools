/-
C16 — Generated code is independent of user scope (no_std, no prelude, shadowing).   (partial)
Proved over the regenerated inventory of every identifier occurrence in every template: none of
them is resolved through the user's module scope.  rustc's name resolution itself is modelled by
the small function `resolves` below and sampled by the hostile-scope harness and probes.
-/
import EnumToolsModel.Generated.Inventory
namespace ET.Thm
open ET.Generated

/-- classes of occurrences whose meaning depends on what is in scope at the derive's call site -/
def scopeDependent : NameClass → Bool
  | .bare | .bareMacro | .barePathHead | .barePathTail | .absOther | .relativeUse | .interpRelative => true
  | _ => false

/-- no template contains a name that is looked up in the user's scope: everything is an absolute
`::core::…` path, `Self`-relative, an interpolated generated item, a binding or absolute `use`
local to the generated function, a method/field, a keyword, or a primitive type name -/
theorem C16_no_scope_dependent_name : (nameOccurrences.all (fun o => !scopeDependent o.2.2.2)) = true := by
  decide +kernel

/-- every absolute path starts at `::core` (never `::std`, never another crate) -/
theorem C16_absolute_paths_are_core : (nameOccurrences.all (fun o => o.2.2.2 != .absOther)) = true := by
  -- an absolute path into another crate is one of the scope-dependent classes
  refine List.all_eq_true.mpr fun o ho => ?_
  have h := List.all_eq_true.mp C16_no_scope_dependent_name o ho
  rw [bne_iff_ne]
  intro e
  rw [e] at h
  cases h

/-- a model of name resolution in which only scope-dependent occurrences consult the user's environment -/
def resolves (env : String → Option String) (o : String × Nat × String × NameClass) : Option String :=
  if scopeDependent o.2.2.2 then env o.2.2.1 else some o.2.2.1

/-- in that model, what the templates mean does not depend on the user's environment -/
theorem C16_env_independent (env₁ env₂ : String → Option String) :
    nameOccurrences.map (resolves env₁) = nameOccurrences.map (resolves env₂) := by
  apply List.map_congr_left
  intro o ho
  have := List.all_eq_true.mp C16_no_scope_dependent_name o ho
  simp only [Bool.not_eq_true'] at this
  simp [resolves, this]

/-- limit, stated not hidden: primitive type names are written unqualified (a user *type* called `usize`
or `str` would capture them); these are the occurrences -/
def primitiveOccurrences : List String := (nameOccurrences.filter (fun o => o.2.2.2 == .primitive)).map (·.2.2.1) |>.eraseDups

end ET.Thm
