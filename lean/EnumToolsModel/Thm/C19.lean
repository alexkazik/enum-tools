/-
C19 — Generated items have the documented signatures, const where documented.   (partial)
Proved over the regenerated inventory of item headers (every branch of every template) and the
regenerated documentation catalogue; rustc's typing is sampled by the signature probes.
-/
import EnumToolsModel.Generated.Inventory
import EnumToolsModel.Generated.Docs
namespace ET.Thm
open ET.Generated

def docSig (k : String) : Option String := (docSigsNormalised.find? (·.1 == k)).map (·.2)

/-- for every documented feature, the header of its item is the same in *every* template branch
(mode × gapless/with-holes) and equals the documented signature: `const fn into`, associated
`const MIN/MAX : Self`, `Option<Self>` results, `&'static str`, the iterator struct types -/
theorem C19_headers_match_docs :
    (featureHeaders.all (fun kh => !kh.2.isEmpty && kh.2.all (fun h => docSig kh.1 == some h))) = true := by
  decide +kernel

/-- every documented signature has a template (nothing documented is missing) -/
theorem C19_every_documented_item_has_a_template :
    (docSigsNormalised.all (fun ks => featureHeaders.any (fun kh => kh.1 == ks.1))) = true := by
  decide +kernel

/-- every emitter of an iterator struct (the four iter modes and names) implements Iterator,
DoubleEndedIterator, ExactSizeIterator and FusedIterator for it -/
theorem C19_iterator_traits :
    (iteratorImpls.all (fun e => ["Iterator", "DoubleEndedIterator", "ExactSizeIterator", "FusedIterator"].all (fun t => e.2.contains t))) = true
    ∧ iteratorImpls.length = 5 := by
  decide +kernel

/-- trait forms: `TryFrom<repr>` and `FromStr` return `Result<Self, _>` whose error type is the associated type, spelled
`Self::Error/Err` or written out as `()` (the associated type is fixed to `()` below, so the two are the same type),
`From<Self> for repr / &'static str` return the target, in every branch -/
theorem C19_trait_forms :
    (traitFnHeaders.all (fun h =>
      (h.1 == "feature/try_from_trait.rs" && (h.2 == "try_from(value:#repr)->Result<Self,Self::Error>" || h.2 == "try_from(value:#repr)->Result<Self,()>")) ||
      (h.1 == "feature/from_str_trait.rs" && (h.2 == "from_str(s:&str)->Result<Self,Self::Err>" || h.2 == "from_str(s:&str)->Result<Self,()>")) ||
      (h.1 == "feature/into_trait.rs" && h.2 == "from(value:Self)->Self") ||
      (h.1 == "feature/into_str_trait.rs" && h.2 == "from(value:Self)->Self") ||
      (h.2 == "fmt(&self,f:&mutFormatter<'_>)->Result"))) = true
    ∧ ((assocTypes.filter (fun a => a.2.1 == "Error" || a.2.1 == "Err")).all (fun a => a.2.2 == "()")) = true
    ∧ (assocTypes.any (fun a => a.1 == "feature/try_from_trait.rs" && a.2.1 == "Error")) = true
    ∧ (assocTypes.any (fun a => a.1 == "feature/from_str_trait.rs" && a.2.1 == "Err")) = true := by
  decide +kernel

end ET.Thm
