/-
C08 — names() yields the names in discriminant order, aligned with iter() and as_str.
-/
import EnumToolsModel.Thm.C06
import EnumToolsModel.Thm.C04
import EnumToolsModel.Lemmas.TemplatesEq
namespace ET.Thm

/-- `names()` is observationally a cursor over the names in discriminant order -/
theorem C08_names (D : Derive) (nf bf : Name → Res (Option Name)) (ops : List Op) (fin : Fin) :
    namesInit D = .cursor (spec.names D.sem) ∧
    IterState.run nf bf (namesInit D) ops
      = .ok (.cursor (Cursor.run (spec.names D.sem) ops).1, (Cursor.run (spec.names D.sem) ops).2) ∧
    IterState.finish nf bf (.cursor (Cursor.run (spec.names D.sem) ops).1) fin
      = .ok (Cursor.finish (Cursor.run (spec.names D.sem) ops).1 fin) := by
  have h0 : namesInit D = .cursor (spec.names D.sem) := by
    rw [namesInit, tableName, spec.names, D.sem_names]
  refine ⟨h0, ?_, rfl⟩
  rw [h0]; exact run_cursor nf bf ops _

/-- `iter().zip(names())` pairs every variant `v` with `as_str(v)` -/
theorem C08_zip_aligned (D : Derive) (h : D.WF) :
    (spec.iter D.sem).zip (spec.names D.sem) = D.sem.items ∧
    ∀ p ∈ (spec.iter D.sem).zip (spec.names D.sem), spec.asStr D.sem p.1 = some p.2 := by
  have hz : (spec.iter D.sem).zip (spec.names D.sem) = D.sem.items := by
    rw [spec.iter, spec.names, D.sem_discs, D.sem_names]
    exact D.zip_tables
  refine ⟨hz, ?_⟩
  rw [hz]
  intro p hp
  exact h.spec_asStr_of_mem hp

/-- `names().len()` is the number of variants -/
theorem C08_len (D : Derive) : (spec.names D.sem).length = D.numValues ∧ (spec.names D.sem).length = (spec.iter D.sem).length := by
  rw [spec.names, spec.iter, D.sem_names, D.sem_discs, D.names_length, D.vals_length]
  exact ⟨rfl, rfl⟩

/-- the alignment survives reversal: `iter().rev().zip(names().rev())` pairs the same variants and names, descending -/
theorem C08_rev_aligned (D : Derive) :
    (spec.iter D.sem).reverse.zip (spec.names D.sem).reverse = D.sem.items.reverse := by
  simp [spec.iter, spec.names, EnumSem.discs, EnumSem.names, ← List.map_reverse, List.zip_map']

/-- position by position: the `i`-th item of `names()` is `as_str` of the `i`-th item of `iter()` -/
theorem C08_nth_aligned (D : Derive) (h : D.WF) (i : Nat) (v : Int) (hv : (spec.iter D.sem)[i]? = some v) :
    (spec.names D.sem)[i]? = spec.asStr D.sem v := by
  rw [spec.iter, D.sem_discs] at hv
  obtain ⟨n, hn, ha⟩ := spec_asStr_of_pos D h i v hv
  rw [spec.names, D.sem_names, hn, ha]

/-- non-vacuity: names of a renamed enum, consumed from both ends -/
example : IterState.run (fun _ => .ok none) (fun _ => .ok none) (namesInit exD1) [.nextBack, .next, .len]
    = .ok (.cursor [[98, 98], [67], [68], [69]], [.item (some [70]), .item (some [65]), .len 4]) := by decide

/-- `names()` as the source is written now: the struct is built over the name table, i.e. the names in discriminant order -/
theorem C08_source (D : Derive) (tg : Target) (md : Modes) :
    T.names D tg md = .ok (.cursor (spec.names D.sem)) := by
  rw [T.names_eq, (C08_names D (fun _ => .ok none) (fun _ => .ok none) [] .fold).1]

end ET.Thm
