/-
C11 — Enums in the documented domain are accepted with the compiler's discriminants.   (partial)
Proved: (a) whenever the derive accepts, the `(discriminant, name)` list it works with is exactly the
one the language assigns (explicit value, else previous + 1, first 0), sorted by discriminant, and —
given that rustc has checked the discriminants fit the repr — it satisfies the well-formedness
every schema proof starts from; (b) every variant list of the documented domain passes the value
parser without complaint, and a declaration of the documented domain without `enum_tools` attributes
is accepted (configurations are the subject of C10 / C13).
Not proved: that rustc compiles the output (C10's residue); `syn`'s literal lexer (sampled).
-/
import EnumToolsModel.Thm.C12
import EnumToolsModel.Lemmas.WF
import EnumToolsModel.Lemmas.Resolve
namespace ET.Thm

/-- the derive associates with each variant the discriminant the compiler assigns, including implicit
values following explicit ones: the macro's data *is* the meaning of the declaration -/
theorem C11_sem (t : Target) (d : Decl) (x : Expansion) (h : expand t d = .ok x) : d.sem = some x.D.sem := by
  obtain ⟨pv, hpv, hpverrs, hD⟩ := expand_values t d x h
  obtain ⟨_, l, hl, hll, hvals, _⟩ := pvLoop_clean_discs _ _ _ hpv hpverrs
  have hnd : (pv.values.map (·.1)).Nodup := pvLoop_nodup _ _ _ _ hpv (by simp)
  unfold Decl.sem Derive.sem
  rw [hl, hD]
  simp only [Option.map_some, Option.some.injEq]
  rw [sortByKey_map_eq_sortByDisc pv.values hnd, hvals, entriesOf_map d.variants l hll]

/-- so two accepted derives on declarations with the same meaning work on the same `(discriminant, name)` list -/
theorem sem_eq_of_decl_sem_eq {t1 t2 : Target} {d1 d2 : Decl} {x1 x2 : Expansion} (h1 : expand t1 d1 = .ok x1)
    (h2 : expand t2 d2 = .ok x2) (hs : d1.sem = d2.sem) : x1.D.sem = x2.D.sem :=
  Option.some.inj ((C11_sem t1 d1 x1 h1).symm.trans (hs.trans (C11_sem t2 d2 x2 h2)))

/-- what rustc itself guarantees about an enum it accepts: every discriminant is a value of the repr -/
def RustcAcceptsEnum (x : Expansion) : Prop := ∀ v ∈ x.D.vals, x.D.repr.InRange v

theorem reprTable_facts (t : Target) (ht : t.WF) (r : String) (p : Prim) (sg ub : Nat) (h : reprTable t r = some (p, sg, ub)) :
    1 ≤ p.bits ∧ ub = p.bits := by
  unfold Target.WF at ht
  unfold reprTable at h
  split at h <;> first
    | (cases h; exact ⟨by decide, rfl⟩)
    | (cases h; exact ⟨by show 1 ≤ t.ptrBits; omega, rfl⟩)
    | cases h

/-- `parse` establishes the well-formedness the schema proofs start from -/
theorem C11_WF (t : Target) (ht : t.WF) (d : Decl) (x : Expansion) (h : expand t d = .ok x) (hr : RustcAcceptsEnum x) : x.D.WF := by
  obtain ⟨_, rname, repr, sg, ub, pv, _, _, hrt, _, _, _, hpv, _, hne, hlen, hD, _⟩ := expand_ok t d x h
  obtain ⟨D, _, _, _, _⟩ := x
  subst hD
  obtain ⟨hbits, rfl⟩ := reprTable_facts t ht rname repr sg ub hrt
  have hnd : (pv.values.map (·.1)).Nodup := pvLoop_nodup _ _ _ _ hpv (by simp)
  have hsorted : ((sortByKey pv.values).map (·.1)).Pairwise (· < ·) := List.pairwise_map.mpr (sortByKey_lt pv.values hnd)
  refine ⟨mt (sortByKey_eq_nil_iff _).mp hne, hsorted, hr, rfl, hbits, Nat.le_refl _, ?_,
    Nat.lt_of_le_of_lt (Nat.le_of_eq (sortByKey_length _)) hlen⟩
  · -- at most 2^bits distinct values fit the repr
    have hle := sorted_length_le _ hsorted repr.lo repr.hi hr
    rw [repr.hi_sub_lo hbits, List.length_map] at hle
    have hpos := two_pow_pos repr.bits
    show ((sortByKey pv.values).length : Int) ≤ 2 ^ repr.bits
    omega

/-- every variant list of the documented domain passes the value parser without complaint -/
theorem domain_clean : ∀ (vs : List Variant) (st : PV) (l : List (Int × Name)),
    (∀ v ∈ vs, v.fields = .unit ∧ v.attrsOk ∧ (∀ e, v.disc = some e → e.InDomain)) →
    rustcDiscs (st.last + 1) vs = some l → (∀ p ∈ l, i64Min ≤ p.1 ∧ p.1 ≤ i64Max) →
    (∀ p ∈ l, p.1 ∉ st.values.map (·.1)) → (l.map (·.1)).Nodup → i64Min ≤ st.last → st.last ≤ i64Max →
    ∃ st', CleanFrom {} st vs st' := by
  intro vs
  induction vs with
  | nil => intro st l _ _ _ _ _ _ _; exact ⟨st, rfl⟩
  | cons v rest ih =>
    intro st l hforms hl hrange hfresh hnd h1 h2
    obtain ⟨i, l', rfl, hl', hnone, hsome⟩ := rustcDiscs_cons_some hl
    obtain ⟨⟨hf, ha, hdom⟩, hforms'⟩ := List.forall_mem_cons.mp hforms
    obtain ⟨hir, hrange'⟩ := List.forall_mem_cons.mp hrange
    obtain ⟨hi, hfresh'⟩ := List.forall_mem_cons.mp hfresh
    obtain ⟨hil, hnd'⟩ := List.nodup_cons.mp hnd
    have hsd : StepDisc st.last v i := by
      cases hd : v.disc with
      | none => exact (StepDisc_none hd).mpr ⟨by have := hnone hd; omega, hnone hd⟩
      | some e => exact (StepDisc_some hd).mpr ⟨hdom e hd, hsome e hd⟩
    have hfresh'' : ∀ p ∈ l', p.1 ∉ (st.push {} v i).values.map (·.1) := fun p hp hm =>
      ((PV.mem_push {} st v i p.1).mp hm).elim (hfresh' p hp) (fun e => hil (List.mem_map.mpr ⟨p, hp, e⟩))
    obtain ⟨st', hst'⟩ := ih (st.push {} v i) l' hforms' hl' hrange' hfresh'' hnd' hir.1 hir.2
    exact ⟨st', ha, hf, rfl, i, hsd, fun _ => rfl, hi, hst'⟩

/-- foreign attributes are skipped: among attributes that are foreign or `repr`, only the latter count -/
theorem parseAttrs_plain : ∀ (attrs : List EAttr) (st : AttrsOut), (∀ a ∈ attrs, a = .foreign ∨ ∃ r, a = .repr r) →
    parseAttrs st attrs = parseAttrs st ((reprAttrs attrs).map .repr) := by
  intro attrs
  induction attrs with
  | nil => intro st _; rfl
  | cons a rest ih =>
    intro st hp
    have hrest := fun b hb => hp b (List.mem_cons_of_mem _ hb)
    rcases hp a List.mem_cons_self with rfl | ⟨ra, rfl⟩
    · exact ih st hrest
    · show parseAttrs st (.repr ra :: rest) = parseAttrs st (.repr ra :: (reprAttrs rest).map .repr)
      simp only [parseAttrs, ih _ hrest]

/-- the configuration stage with no feature requested: nothing to report, and `resolve` has nothing to reject -/
theorem configStage_plain (D : Derive) : ∃ x, configStage D {} [] [] = .ok x := by
  have hpf : (parseFeatures Generated.catalog {} [] []).1.flags = [] ∧ (parseFeatures Generated.catalog {} [] []).2.2 = [] ∧
      (parseFeatures Generated.catalog {} [] []).2.1 = [] := by decide +kernel
  obtain ⟨r2, hr2⟩ := resolve_empty { gapless := D.gapless, numValues := D.numValues, sizeGuess := D.sizeGuess }
    (parseFeatures Generated.catalog {} [] []).1.modes
  unfold configStage
  simp only [hpf.1, hpf.2.1, hpf.2.2, hr2, List.map_nil, List.append_nil, List.isEmpty_nil, if_true]
  exact ⟨_, rfl⟩

/-- Every declaration of the documented domain — one primitive repr, 1..=65534 unit variants, each
discriminant implicit or an (optionally negated) integer literal within [i64::MIN, i64::MAX], any
foreign attributes — that carries no `enum_tools` attribute is accepted. -/
theorem C11_domain_accepted (t : Target) (d : Decl) (hd : InDomain t d)
    (hplain : ∀ a ∈ d.attrs, a = .foreign ∨ ∃ r, a = .repr r) : ∃ x, expand t d = .ok x := by
  obtain ⟨r, hr, hrt⟩ := hd.oneRepr
  obtain ⟨l, hl, hne, hlen, hll, hrange, hnd⟩ := hd.discs
  obtain ⟨⟨repr, sg, ub⟩, hp⟩ := Option.isSome_iff_exists.mp hrt
  have ha : parseAttrs {} d.attrs = .ok { repr := some r } := by rw [parseAttrs_plain d.attrs {} hplain, hr]; rfl
  obtain ⟨st', hclean⟩ := domain_clean d.variants { errs := [] } l hd.forms hl hrange (by simp) hnd (by decide) (by decide)
  have hpv := (pvLoop_clean_iff {} d.variants { errs := [] } st' (by decide) (by decide)).mpr hclean
  obtain ⟨_, l2, hl2, hll2, hvals, _⟩ := clean_discs {} d.variants _ st' hclean
  have hlen' : (sortByKey (id st'.values)).length = l.length := by
    rw [sortByKey_length, id, hvals, hll]; simp [entriesOf, hll2]
  refine (configStage_plain _).imp fun x hx =>
    (expandWith_ok_iff id t d x).mpr ⟨{ repr := some r }, r, repr, sg, ub, st', ha, rfl, hp, hd.isEnum, hpv.1, ?_, ?_, hpv.2 ▸ hx⟩
  · intro e; rw [e] at hlen'; exact hne (List.eq_nil_of_length_eq_zero hlen'.symm)
  · rw [hlen']; exact hlen

end ET.Thm
