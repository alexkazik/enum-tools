/-
C07 — range(a, b) is iter() restricted to a <= v <= b, empty when a > b, in every mode.
-/
import EnumToolsModel.Lemmas.Range
import EnumToolsModel.Thm.C06
import EnumToolsModel.Lemmas.TemplatesRun
import EnumToolsModel.Lemmas.ReprTableEq
namespace ET.Thm

/-- `range(a, b)` starts out representing exactly the variants with `a ≤ v ≤ b`, ascending — in every
iterator mode that supports `range`, gapless or with holes, also when `a > b` (then empty; never a panic,
never an uninitialised index) -/
theorem C07_init (D : Derive) (t : Target) (h : D.WF) (ht : t.WF) (m : IterMode)
    (hm : m = .range ∨ m = .nextAndBack ∨ m = .table) (hr : m = .range → D.gapless = true)
    (a b : Int) (ha : a ∈ D.vals) (hb : b ∈ D.vals) :
    ∃ st, rangeInit D t m a b = .ok st ∧ Sim D.vals st (spec.range D.sem a b) := by
  obtain ⟨ia, ib, hva, hvb, hnb, htb⟩ := rangeInit_pos D t h ht a b ha hb
  rcases hm with rfl | rfl | rfl
  · have hg := hr rfl
    have hspec : spec.range D.sem a b = interval a b := by
      rw [spec.range, D.sem_discs, h.gapless_interval hg]
      exact filter_interval _ _ a b (h.minKey_le a ha) (h.le_maxKey b hb)
    unfold rangeInit
    simp only [hg, if_true, mapTransmute_ok D _ (hspec ▸ spec_range_subset D a b), Res.bind_ok, hspec]
    exact ⟨_, rfl, Sim.cursor _⟩
  · rw [hnb, spec_range_pos D h a b ia ib hva hvb]
    exact ⟨_, rfl, Sim.nb_range hva hvb⟩
  · rw [htb, spec_range_pos D h a b ia ib hva hvb, rangeSlice_eq D ia ib (List.getElem?_eq_some_iff.mp hvb).1]
    exact ⟨_, rfl, Sim.cursor _⟩

/-- observational equality with a cursor over `{v | a ≤ v ≤ b}` after any finite sequence of operations -/
theorem C07_range (D : Derive) (t : Target) (h : D.WF) (ht : t.WF) (m : IterMode)
    (hm : m = .range ∨ m = .nextAndBack ∨ m = .table) (hr : m = .range → D.gapless = true)
    (a b : Int) (ha : a ∈ D.vals) (hb : b ∈ D.vals) (ops : List Op) (fin : Fin) :
    ∃ st st', rangeInit D t m a b = .ok st ∧
      IterState.run (nextFn D) (nextBackFn D) st ops = .ok (st', (Cursor.run (spec.range D.sem a b) ops).2) ∧
      IterState.finish (nextFn D) (nextBackFn D) st' fin = .ok (Cursor.finish (Cursor.run (spec.range D.sem a b) ops).1 fin) := by
  obtain ⟨st, hi, hsim⟩ := C07_init D t h ht m hm hr a b ha hb
  obtain ⟨st', hrun, hsim'⟩ := run_sim (stepFns D h) ops st _ hsim
  exact ⟨st, st', hi, hrun, finish_sim (stepFns D h) st' _ hsim' fin⟩

/-- the full range is `iter()` -/
theorem C07_full (D : Derive) (h : D.WF) : spec.range D.sem (minC D) (maxC D) = spec.iter D.sem := by
  unfold spec.range spec.iter
  rw [List.filter_eq_self]
  intro x hx
  rw [D.sem_discs] at hx
  simp only [Bool.and_eq_true, decide_eq_true_eq]
  exact ⟨h.minKey_le x hx, h.le_maxKey x hx⟩

/-- membership: `range(a, b)` holds exactly the variants `v` of `iter()` with `a ≤ v ≤ b` -/
theorem C07_mem (D : Derive) (a b v : Int) :
    v ∈ spec.range D.sem a b ↔ v ∈ spec.iter D.sem ∧ a ≤ v ∧ v ≤ b := by
  simp [spec.range, spec.iter, List.mem_filter]

/-- `a > b` gives the empty iterator -/
theorem C07_empty (D : Derive) (a b : Int) (hab : b < a) : spec.range D.sem a b = [] :=
  List.eq_nil_iff_forall_not_mem.mpr fun x hx => by have := (C07_mem D a b x).mp hx; omega

/-- a range is a sublist of `iter()`: ascending, no duplicates, nothing that `iter()` does not yield -/
theorem C07_sublist_sorted (D : Derive) (h : D.WF) (a b : Int) :
    (spec.range D.sem a b).Sublist (spec.iter D.sem) ∧ (spec.range D.sem a b).Pairwise (· < ·) := by
  have hs : (spec.range D.sem a b).Sublist (spec.iter D.sem) := List.filter_sublist
  exact ⟨hs, h.sem_sorted.sublist hs⟩

/-- narrowing a range: restricting `range(a, b)` to tighter bounds is the range of the tighter bounds -/
theorem C07_nested (D : Derive) (a b a' b' : Int) (ha : a ≤ a') (hb : b' ≤ b) :
    (spec.range D.sem a b).filter (fun v => decide (a' ≤ v) && decide (v ≤ b')) = spec.range D.sem a' b' := by
  unfold spec.range
  rw [List.filter_filter]
  apply List.filter_congr
  intro x _
  rw [Bool.eq_iff_iff]
  simp only [Bool.and_eq_true, decide_eq_true_eq]
  omega

/-- consecutive ranges concatenate: `range(a, b) = range(a, m) ++ range(m+1, b)` for `a - 1 ≤ m ≤ b` -/
theorem C07_split (D : Derive) (h : D.WF) (a m b : Int) (ha : a ≤ m + 1) (hb : m ≤ b) :
    spec.range D.sem a b = spec.range D.sem a m ++ spec.range D.sem (m + 1) b :=
  filter_split a m b ha hb D.sem.discs h.sem_sorted

/-- non-vacuity of the split, across a hole -/
example : spec.range exD1.sem (-5) 126 = spec.range exD1.sem (-5) 2 ++ spec.range exD1.sem 3 126 ∧
    spec.range exD1.sem (-5) 2 = [-5, -4] := by decide

/-- non-vacuity: with holes and a negative later run, in both modes, and `a > b` -/
example : exD1.WF ∧ (rangeInit exD1 {} .table (-5) 126 = .ok (.cursor [-5, -4, 3, 126])) ∧
    (rangeInit exD1 {} .table 126 (-5) = .ok (.cursor [])) ∧
    (rangeInit exD1 {} .nextAndBack 127 (-10) = .ok (.nb (some 127) (some (-10)) 0)) ∧
    (rangeInit exD2 {} .range 254 255 = .ok (.cursor [254, 255])) := by
  refine ⟨exD1_WF, by decide, by decide, by decide, by decide⟩

/-! ### the same statement about `range` as translated from /repo/src (`Generated/Templates.lean`) -/

/-- `range(a, b)` as the source is written now: a cursor over `{v | a ≤ v ≤ b}` under every finite history,
in every mode the macro accepts, also when `a > b` -/
theorem C07_source (D : Derive) (tg : Target) (md : Modes) (h : D.WF) (ht : tg.WF)
    (hm : md.iter = .range ∨ md.iter = .nextAndBack ∨ md.iter = .table) (hr : md.iter = .range → D.gapless = true)
    (a b : Int) (ha : a ∈ D.vals) (hb : b ∈ D.vals) (ops : List Op) (fin : Fin) :
    ∃ st st', T.range D tg md a b = .ok st ∧
      T.runT D tg md st ops = .ok (st', (Cursor.run (spec.range D.sem a b) ops).2) ∧
      T.finishT D tg md st' fin = .ok (Cursor.finish (Cursor.run (spec.range D.sem a b) ops).1 fin) := by
  obtain ⟨st, hi, hsim⟩ := C07_init D tg h ht md.iter hm hr a b ha hb
  obtain ⟨st', h1, h2⟩ := T.observeT D tg md h ht (stepFns_source D tg md h) st _ hsim
    (rangeInit_cursor D tg md.iter a b st hi) ops fin
  have hm' : md.iter = .nextAndBack ∨ md.iter = .table ∨ (md.iter = .range ∧ D.gapless = true) := by
    rcases hm with h1 | h1 | h1
    · exact .inr (.inr ⟨h1, hr h1⟩)
    · exact .inl h1
    · exact .inr (.inl h1)
  exact ⟨st, st', by rw [T.range_eq D tg md h ht a b ha hb hm']; exact hi, h1, h2⟩

/-- `range` computes positions and lengths through `#repr_unsigned`: the companion type written in `parser/mod.rs` on this run is the unsigned type of the repr's own width -/
theorem C07_repr_table_source (t : Target) :
    (ET.Generated.reprArms.all (armAgrees t)) = true
    ∧ (∀ r, (reprTable t r).isSome ↔ r ∈ ET.Generated.reprArms.map (·.1)) := repr_table_source t

end ET.Thm
