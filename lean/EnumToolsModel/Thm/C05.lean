/-
C05 — MIN, MAX, next and next_back follow discriminant order, not declaration order.
-/
import EnumToolsModel.Lemmas.Next
import EnumToolsModel.Lemmas.Examples
import EnumToolsModel.Lemmas.TemplatesEq
namespace ET.Thm

/-- MIN and MAX are the variants with the smallest and the largest discriminant -/
theorem C05_min_max (D : Derive) (h : D.WF) :
    spec.min D.sem = some (minC D) ∧ spec.max D.sem = some (maxC D) ∧
      (∀ v ∈ D.vals, minC D ≤ v ∧ v ≤ maxC D) ∧ minC D ∈ D.vals ∧ maxC D ∈ D.vals := by
  refine ⟨?_, ?_, fun v hv => ⟨h.minKey_le v hv, h.le_maxKey v hv⟩, h.minKey_mem, h.maxKey_mem⟩
  · simp [spec.min, minC, h.head?_eq]
  · simp [spec.max, maxC, h.getLast?_eq]

/-- `next(v)` is the variant with the smallest discriminant greater than `v`'s — gapless (`+ 1`, which
never overflows) and with holes (run-table loop with `wrapping_add`); never UB, never a panic. -/
theorem C05_next (D : Derive) (h : D.WF) (v : Int) (hv : v ∈ D.vals) :
    nextFn D v = .ok (spec.next D.sem v) := by
  rw [(h.next_find hv).1, spec.next, D.sem_discs]

/-- `next_back(v)` is the variant with the largest discriminant smaller than `v`'s -/
theorem C05_nextBack (D : Derive) (h : D.WF) (v : Int) (hv : v ∈ D.vals) :
    nextBackFn D v = .ok (spec.nextBack D.sem v) := by
  rw [(h.next_find hv).2, spec.nextBack, D.sem_discs]

/-- by position: `next` of the i-th smallest variant is the (i+1)-th smallest (none after the last),
so following `next` from MIN visits every variant exactly once in ascending order -/
theorem C05_next_index (D : Derive) (h : D.WF) (i : Nat) (hi : i < D.vals.length) :
    nextFn D D.vals[i] = .ok D.vals[i + 1]? := by
  rw [(h.next_of_split (take_getElem_drop D.vals i hi).symm).1, List.head?_drop]

theorem C05_nextBack_index (D : Derive) (h : D.WF) (i : Nat) (hi : i < D.vals.length) :
    nextBackFn D D.vals[i] = .ok (if i = 0 then none else D.vals[i - 1]?) := by
  rw [(h.next_of_split (take_getElem_drop D.vals i hi).symm).2, List.getLast?_take]
  split
  · rfl
  · rw [List.getElem?_eq_getElem (by omega), Option.some_or]

/-- `next(v)` is `None` iff `v` is MAX; `next_back(v)` is `None` iff `v` is MIN -/
theorem C05_none_iff (D : Derive) (h : D.WF) (v : Int) (hv : v ∈ D.vals) :
    (nextFn D v = .ok none ↔ v = maxC D) ∧ (nextBackFn D v = .ok none ↔ v = minC D) := by
  rw [(h.next_find hv).1, (h.next_find hv).2]
  simp only [Res.ok.injEq, List.find?_eq_none, decide_eq_true_eq, List.mem_reverse, Int.not_lt]
  constructor
  · -- `v` bounds the variants from above iff it is the largest
    exact ⟨fun hall => Int.le_antisymm (h.le_maxKey v hv) (hall _ h.maxKey_mem), fun e y hy => e ▸ h.le_maxKey y hy⟩
  · exact ⟨fun hall => Int.le_antisymm (hall _ h.minKey_mem) (h.minKey_le v hv), fun e y hy => e ▸ h.minKey_le y hy⟩

/-- `next_back(next(v)) == Some(v)` whenever `next(v)` is `Some` -/
theorem C05_nextBack_next (D : Derive) (h : D.WF) (v w : Int) (hv : v ∈ D.vals) (hn : nextFn D v = .ok (some w)) :
    nextBackFn D w = .ok (some v) ∧ w ∈ D.vals := by
  obtain ⟨A, B, hAB⟩ := List.append_of_mem hv
  rw [(h.next_of_split hAB).1] at hn
  obtain ⟨B', rfl⟩ := List.head?_eq_some_iff.mp (Res.ok.inj hn)
  have hAB' : D.vals = (A ++ [v]) ++ w :: B' := by rw [hAB, List.append_assoc]; rfl
  exact ⟨by rw [(h.next_of_split hAB').2, List.getLast?_concat], by rw [hAB]; simp⟩

/-- `next(next_back(w)) == Some(w)` whenever `next_back(w)` is `Some` -/
theorem C05_next_nextBack (D : Derive) (h : D.WF) (v w : Int) (hw : w ∈ D.vals) (hn : nextBackFn D w = .ok (some v)) :
    nextFn D v = .ok (some w) ∧ v ∈ D.vals := by
  obtain ⟨A, B, hAB⟩ := List.append_of_mem hw
  rw [(h.next_of_split hAB).2] at hn
  obtain ⟨A', rfl⟩ := List.getLast?_eq_some_iff.mp (Res.ok.inj hn)
  have hAB' : D.vals = A' ++ v :: w :: B := by rw [hAB, List.append_assoc]; rfl
  exact ⟨by rw [(h.next_of_split hAB').1]; rfl, by rw [hAB]; simp⟩

/-- `next(v) = Some(w)` says: `w` is a variant, `v < w`, and no variant lies strictly between the two -/
theorem C05_next_least (D : Derive) (h : D.WF) (v w : Int) (hv : v ∈ D.vals) (hn : nextFn D v = .ok (some w)) :
    w ∈ D.vals ∧ v < w ∧ ∀ u ∈ D.vals, v < u → w ≤ u := by
  -- `w` is the first variant above `v` in the ascending list
  rw [(h.next_find hv).1] at hn
  have hf := Res.ok.inj hn
  exact ⟨List.mem_of_find?_eq_some hf, by simpa using List.find?_some hf,
    fun u hu hvu => find?_key_le id h.sorted hf u hu (decide_eq_true hvu)⟩

/-- non-vacuity: four runs, negative later runs, the last run ending at the type's MAX (where `+1` wraps) -/
example : exD1.WF ∧ nextFn exD1 (-4) = .ok (some 3) ∧ nextFn exD1 127 = .ok none ∧ nextBackFn exD3 (-128) = .ok none
    ∧ nextBackFn exD1 3 = .ok (some (-4)) ∧ nextFn exD2 255 = .ok none := by
  refine ⟨exD1_WF, by decide, by decide, by decide, by decide, by decide⟩

/-- `next` / `next_back` as the source is written now (`Generated/Templates.lean`) -/
theorem C05_source (D : Derive) (tg : Target) (md : Modes) (h : D.WF) (v : Int) (hv : v ∈ D.vals) :
    T.next D tg md v = .ok (spec.next D.sem v) ∧ T.nextBack D tg md v = .ok (spec.nextBack D.sem v) :=
  ⟨by rw [T.next_eq D tg md h v hv]; exact C05_next D h v hv,
   by rw [T.nextBack_eq D tg md h v hv]; exact C05_nextBack D h v hv⟩

/-- walking the translated `next` from the i-th smallest variant reaches the (i+1)-th smallest; `next_back` the (i-1)-th -/
theorem C05_source_index (D : Derive) (tg : Target) (md : Modes) (h : D.WF) (i : Nat) (hi : i < D.vals.length) :
    T.next D tg md D.vals[i] = .ok D.vals[i + 1]? ∧
    T.nextBack D tg md D.vals[i] = .ok (if i = 0 then none else D.vals[i - 1]?) := by
  have hv := List.getElem_mem hi
  exact ⟨by rw [T.next_eq D tg md h _ hv]; exact C05_next_index D h i hi,
         by rw [T.nextBack_eq D tg md h _ hv]; exact C05_nextBack_index D h i hi⟩

end ET.Thm
