/-
C02 — No undefined behaviour: every value produced is a declared variant.
Every schema result is `.ok _` (never `.ub _`: no false `transmute`, `unwrap_unchecked`,
`assume_init`), and every enum value inside the result is a declared discriminant.
-/
import EnumToolsModel.Thm.C01
import EnumToolsModel.Thm.C07
import EnumToolsModel.Thm.C08
namespace ET.Thm

/-- try_from / TryFrom: defined for every integer; the result, if any, is a declared variant -/
theorem C02_tryFrom (D : Derive) (h : D.WF) (n : Int) :
    ∃ r, tryFromFn D n = .ok r ∧ tryFromTrait D n = .ok r ∧ ∀ e, r = some e → e ∈ D.vals := by
  refine ⟨spec.tryFrom D.sem n, C01_tryFromFn D h n, C01_tryFromTrait D h n, ?_⟩
  intro e he
  exact (C01_partial_inverse D h n e (by rw [C01_tryFromFn D h n, he])).2

/-- next / next_back: the unchecked unwrap in the loop and both transmutes are justified -/
theorem C02_next (D : Derive) (h : D.WF) (v : Int) (hv : v ∈ D.vals) :
    (∃ r, nextFn D v = .ok r ∧ ∀ w, r = some w → w ∈ D.vals) ∧
    (∃ r, nextBackFn D v = .ok r ∧ ∀ w, r = some w → w ∈ D.vals) := by
  refine ⟨⟨_, C05_next D h v hv, fun w hw => ?_⟩, ⟨_, C05_nextBack D h v hv, fun w hw => ?_⟩⟩
  · exact D.sem_discs ▸ List.mem_of_find?_eq_some hw
  · exact D.sem_discs ▸ List.mem_reverse.mp (List.mem_of_find?_eq_some hw)

/-- as_str: the unchecked unwrap of `find` is justified and the table index is in bounds -/
theorem C02_asStr (D : Derive) (t : Target) (h : D.WF) (ht : t.WF) (m : Mode3) (v : Int) (hv : v ∈ D.vals) :
    ∃ n, asStr D t m v = .ok n := by
  obtain ⟨n, _, hn⟩ := C03_asStr D t h ht m v hv
  exact ⟨n, hn⟩

/-- from_str / FromStr: defined for every string; the result, if any, is a declared variant -/
theorem C02_fromStr (D : Derive) (h : D.WF) (m : Mode3) (s : Name) :
    ∃ r, fromStr D m s = .ok r ∧ ∀ e, r = some e → e ∈ D.vals := by
  refine ⟨_, C04_fromStr D h m s, fun e he => (C04_asStr_of_fromStr D h s e he).2⟩

/-- iter(): no operation of any finite history is UB or panics, and every yielded item is a declared variant -/
theorem C02_iter (D : Derive) (h : D.WF) (m : IterMode) (hm : m ≠ .auto) (hr : m = .range → D.gapless = true)
    (ops : List Op) (fin : Fin) :
    ∃ st st' outs o, iterInit D m = .ok st ∧ IterState.run (nextFn D) (nextBackFn D) st ops = .ok (st', outs) ∧
      IterState.finish (nextFn D) (nextBackFn D) st' fin = .ok o ∧ ∀ x, .item (some x) ∈ outs → x ∈ D.vals := by
  obtain ⟨st, st', h1, h2, h3⟩ := C06_iter D h m hm hr ops fin
  exact ⟨st, st', _, _, h1, h2, h3, fun x hx => D.sem_discs ▸ cursor_run_item_mem ops _ x hx⟩

/-- range(a, b): the `MaybeUninit` indices are initialised, the slice never panics, every item is a variant -/
theorem C02_range (D : Derive) (t : Target) (h : D.WF) (ht : t.WF) (m : IterMode)
    (hm : m = .range ∨ m = .nextAndBack ∨ m = .table) (hr : m = .range → D.gapless = true)
    (a b : Int) (ha : a ∈ D.vals) (hb : b ∈ D.vals) (ops : List Op) (fin : Fin) :
    ∃ st st' outs o, rangeInit D t m a b = .ok st ∧ IterState.run (nextFn D) (nextBackFn D) st ops = .ok (st', outs) ∧
      IterState.finish (nextFn D) (nextBackFn D) st' fin = .ok o ∧ ∀ x, .item (some x) ∈ outs → x ∈ D.vals := by
  obtain ⟨st, st', h1, h2, h3⟩ := C07_range D t h ht m hm hr a b ha hb ops fin
  exact ⟨st, st', _, _, h1, h2, h3, fun x hx => spec_range_subset D a b x (cursor_run_item_mem ops _ x hx)⟩

/-- summary in terms of `isUB` -/
theorem C02_no_ub (D : Derive) (t : Target) (h : D.WF) (ht : t.WF) (n : Int) (s : Name) (m3 : Mode3) (v : Int) (hv : v ∈ D.vals) :
    (tryFromFn D n).isUB = false ∧ (tryFromTrait D n).isUB = false ∧ (nextFn D v).isUB = false ∧
    (nextBackFn D v).isUB = false ∧ (asStr D t m3 v).isUB = false ∧ (fromStr D m3 s).isUB = false := by
  obtain ⟨r, h1, h2, _⟩ := C02_tryFrom D h n
  obtain ⟨⟨r3, h3, _⟩, ⟨r4, h4, _⟩⟩ := C02_next D h v hv
  obtain ⟨n5, h5⟩ := C02_asStr D t h ht m3 v hv
  obtain ⟨r6, h6, _⟩ := C02_fromStr D h m3 s
  simp [h1, h2, h3, h4, h5, h6, Res.isUB]

/-- the UB outcomes are real outcomes of the model: on a table that is *not* the derive's, the same code is UB -/
example : nextLoop exD1 3 [⟨-10, -10, 0⟩] = .ub .unwrapUncheckedNone ∧ transmute exD1 4 = .ub .transmuteInvalid := by
  refine ⟨by decide, by decide⟩

/-! ### no UB in the function bodies translated from /repo/src (`Generated/Templates.lean`) -/

/-- every translated function returns `.ok _` on every admissible argument (no false `transmute`, no unchecked
unwrap of `None`, no read of an unwritten `MaybeUninit`, no out-of-bounds index, no arithmetic overflow), and
every enum value it returns is a declared variant -/
theorem C02_source (D : Derive) (tg : Target) (md : Modes) (h : D.WF) (ht : tg.WF)
    (n : Int) (hn : D.repr.InRange n) (s : Name) (v : Int) (hv : v ∈ D.vals) :
    (∃ r, T.tryFromFn D tg md n = .ok r ∧ T.tryFromTrait D tg md n = .ok r ∧ ∀ e, r = some e → e ∈ D.vals) ∧
    (∃ r, T.next D tg md v = .ok r ∧ ∀ w, r = some w → w ∈ D.vals) ∧
    (∃ r, T.nextBack D tg md v = .ok r ∧ ∀ w, r = some w → w ∈ D.vals) ∧
    (md.asStr ≠ .auto → ∃ nm, T.asStr D tg md v = .ok nm ∧ T.display D tg md v = .ok nm ∧ T.debug D tg md v = .ok nm ∧ T.intoStr D tg md v = .ok nm) ∧
    (md.fromStrFn ≠ .auto → ∃ r, T.fromStrFn D tg md s = .ok r ∧ ∀ e, r = some e → e ∈ D.vals) ∧
    (md.fromStrTrait ≠ .auto → ∃ r, T.fromStrTrait D tg md s = .ok r ∧ ∀ e, r = some e → e ∈ D.vals) := by
  obtain ⟨r, h1, h2, h3⟩ := C02_tryFrom D h n
  obtain ⟨⟨r3, h4, h5⟩, ⟨r4, h6, h7⟩⟩ := C02_next D h v hv
  refine ⟨⟨r, ?_, ?_, h3⟩, ⟨r3, ?_, h5⟩, ⟨r4, ?_, h7⟩, fun hm => ?_, fun hm => ?_, fun hm => ?_⟩
  · rw [T.tryFromFn_eq D tg md h n hn]; exact h1
  · rw [T.tryFromTrait_eq D tg md h n hn]; exact h2
  · rw [T.next_eq D tg md h v hv]; exact h4
  · rw [T.nextBack_eq D tg md h v hv]; exact h6
  · obtain ⟨nm, _, a, b, c, d⟩ := C03_source D tg md h ht hm v hv
    exact ⟨nm, a, b, c, d⟩
  · exact ⟨_, (C04_source D tg md h s).1 hm, fun e he => (C04_asStr_of_fromStr D h s e he).2⟩
  · exact ⟨_, (C04_source D tg md h s).2 hm, fun e he => (C04_asStr_of_fromStr D h s e he).2⟩

/-- the translated `iter()` and `range(a, b)`: no operation of any finite history is UB or panics, and every
yielded item is a declared variant -/
theorem C02_source_iter (D : Derive) (tg : Target) (md : Modes) (h : D.WF) (ht : tg.WF)
    (hm : md.iter ≠ .auto) (hr : md.iter = .range → D.gapless = true) (ops : List Op) (fin : Fin) :
    ∃ st st' outs o, T.iter D tg md = .ok st ∧ T.runT D tg md st ops = .ok (st', outs) ∧
      T.finishT D tg md st' fin = .ok o ∧ ∀ x, .item (some x) ∈ outs → x ∈ D.vals := by
  obtain ⟨st, st', h1, h2, h3⟩ := C06_source D tg md h ht hm hr ops fin
  exact ⟨st, st', _, _, h1, h2, h3, fun x hx => D.sem_discs ▸ cursor_run_item_mem ops _ x hx⟩

/-- the same for the translated `range(a, b)` -/
theorem C02_source_range (D : Derive) (tg : Target) (md : Modes) (h : D.WF) (ht : tg.WF)
    (hm : md.iter = .range ∨ md.iter = .nextAndBack ∨ md.iter = .table) (hr : md.iter = .range → D.gapless = true)
    (a b : Int) (ha : a ∈ D.vals) (hb : b ∈ D.vals) (ops : List Op) (fin : Fin) :
    ∃ st st' outs o, T.range D tg md a b = .ok st ∧ T.runT D tg md st ops = .ok (st', outs) ∧
      T.finishT D tg md st' fin = .ok o ∧ ∀ x, .item (some x) ∈ outs → x ∈ D.vals := by
  obtain ⟨st, st', h1, h2, h3⟩ := C07_source D tg md h ht hm hr a b ha hb ops fin
  exact ⟨st, st', _, _, h1, h2, h3, fun x hx => spec_range_subset D a b x (cursor_run_item_mem ops _ x hx)⟩

end ET.Thm
