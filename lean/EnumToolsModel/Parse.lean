/-
The macro-time program, part 1: `parser/values.rs`, `parser/mod.rs` (repr table, limit, run table).
Mirrors the Rust statement by statement; `i64` arithmetic is explicit.
-/
import EnumToolsModel.Decl
namespace ET

def i64Min : Int := -9223372036854775808
def i64Max : Int := 9223372036854775807
def wrapI64 (x : Int) : Int := Int.bmod x (2 ^ 64)

inductive Err where
  | duplicateFeature | duplicateParameter | duplicateRepr | duplicateValue | expectedLiteral
  | notNameSorted | notValueSorted | i64Overflow | metaParse | missingRepr | noEnum | noI64
  | noVariants | notInteger | onlyUnitField | unexpectedLiteral | unknownFeature | unknownParameter
  | unsupportedAttributeType | unsupportedPath | unsupportedVisibility | unsupportedRepr | tooMany
  | invalidMode | rangeNeedsIter | rangeTableInline | iterRangeHoles
deriving Repr, DecidableEq, Inhabited

structure Sorted where
  name : Bool := false
  value : Bool := false
deriving Repr, DecidableEq, Inhabited

/-- `HashMap::insert` on an association list: replaces an existing key in place, reports whether it existed. -/
def assocInsert {β} (k : Int) (v : β) : List (Int × β) → List (Int × β) × Bool
  | [] => ([(k, v)], false)
  | (k', v') :: rest =>
    if k' = k then ((k, v) :: rest, true)
    else let (r, b) := assocInsert k v rest; ((k', v') :: r, b)

/-- state threaded through the `for mut v in data.variants` loop of `parse_values` -/
structure PV where
  values : List (Int × (Name × Name)) := []
  last : Int := -1
  lastName : Option Name := none
  errs : List Err := []
deriving Repr, Inhabited

/-- `for a in v.attrs { … }` : the rename processing; `none` = `abort!`.  Returns the name and the errors emitted. -/
def processAttrs : Name → List Err → List VAttr → Option (Name × List Err)
  | name, errs, [] => some (name, errs)
  | name, errs, .foreign :: rest => processAttrs name errs rest
  | _, errs, .rename s :: rest => processAttrs s errs rest
  | name, errs, .badEmit :: rest => processAttrs name (errs ++ [.unsupportedAttributeType]) rest
  | _, _, .badAbort :: _ => none

/-- `if !matches!(v.fields, Fields::Unit) { emit_error!(…) }` -/
def fieldErrs (v : Variant) : List Err := if v.fields ≠ .unit then [.onlyUnitField] else []

/-- the `sorted.name` check (`values.rs:54-61`): errors, and the new `last_name` -/
def nameSortErrs (sorted : Sorted) (lastName : Option Name) (name : Name) : List Err :=
  if sorted.name then
    (match lastName with
      | some ln => if ¬ (ln < name) then [.notNameSorted] else []
      | none => [])
  else []

def nextLastName (sorted : Sorted) (lastName : Option Name) (name : Name) : Option Name :=
  if sorted.name then some name else lastName

/-- how the code reads an explicit discriminant (`values.rs:62-95`): peel one unary minus without
attributes, require an integer literal, parse the digits as i128, negate, range-check against i64 -/
def readDisc (d : DiscExpr) : Except Err Int :=
  let (negate, num) := match d with
    | .neg true e => (true, e)
    | e => (false, e)
  match num with
  | .intLit n =>
    let i : Int := if negate then -(n : Int) else n
    if i64Min ≤ i ∧ i ≤ i64Max then .ok i else .error .noI64
  | _ => .error .notInteger

/-- `values.insert(i, (ident, name))` with the duplicate check, and `last = i` -/
def insertValue (st : PV) (errs : List Err) (lastName : Option Name) (i : Int) (ident name : Name) : PV :=
  let (vals, dup) := assocInsert i (ident, name) st.values
  { values := vals, last := i, lastName := lastName, errs := if dup then errs ++ [.duplicateValue] else errs }

/-- the `sorted.value` check of an explicit discriminant -/
def valueSortErrs (sorted : Sorted) (st : PV) (i : Int) : List Err :=
  if sorted.value ∧ ¬ st.values.isEmpty ∧ i < st.last then [.notValueSorted] else []

/-- one iteration of the loop body (`values.rs:20-107`); `none` = `abort!` -/
def pvStep (sorted : Sorted) (st : PV) (v : Variant) : Option PV :=
  match processAttrs v.ident [] v.attrs with
  | none => none
  | some (name, aerrs) =>
    let errs := st.errs ++ fieldErrs v ++ aerrs ++ nameSortErrs sorted st.lastName name
    let lastName := nextLastName sorted st.lastName name
    match v.disc with
    | some d =>
      match readDisc d with
      | .ok i => some (insertValue st (errs ++ valueSortErrs sorted st i) lastName i v.ident name)
      | .error e => some { st with lastName := lastName, errs := errs ++ [e] }
    | none =>
      let errs := errs ++ (if st.last = i64Max then [.i64Overflow] else [])
      some (insertValue st errs lastName (wrapI64 (st.last + 1)) v.ident name)

def pvLoop (sorted : Sorted) : PV → List Variant → Option PV
  | st, [] => some st
  | st, v :: rest => match pvStep sorted st v with
    | none => none
    | some st' => pvLoop sorted st' rest

/-- `values.sort_by_key(|v| v.0)` applied to the map's entries in whatever order the map yields them -/
def sortByKey {β} (l : List (Int × β)) : List (Int × β) := l.mergeSort (fun a b => decide (a.1 ≤ b.1))

/-- `mod.rs:67-80` -/
def rangesLoop : (b l : Int) → List Int → List (Int × Int)
  | b, l, [] => [(b, l)]
  | b, l, i :: rest => if i ≠ l + 1 then (b, l) :: rangesLoop i i rest else rangesLoop b i rest

def computeRanges : List Int → List (Int × Int)
  | [] => []
  | m :: rest => rangesLoop m m rest

/-- the target: only the pointer width matters -/
structure Target where
  ptrBits : Nat := 64
deriving Repr, DecidableEq, Inhabited

/-- `mod.rs:41-49`: repr ident ↦ (repr, size guess, width of the unsigned companion) -/
def reprTable (t : Target) : String → Option (Prim × Nat × Nat)
  | "u8" => some (⟨false, 8⟩, 1, 8)
  | "i8" => some (⟨true, 8⟩, 1, 8)
  | "u16" => some (⟨false, 16⟩, 2, 16)
  | "i16" => some (⟨true, 16⟩, 2, 16)
  | "u32" => some (⟨false, 32⟩, 4, 32)
  | "i32" => some (⟨true, 32⟩, 4, 32)
  | "usize" => some (⟨false, t.ptrBits⟩, 4, t.ptrBits)
  | "isize" => some (⟨true, t.ptrBits⟩, 4, t.ptrBits)
  | "u64" => some (⟨false, 64⟩, 8, 64)
  | "i64" => some (⟨true, 64⟩, 8, 64)
  | "u128" => some (⟨false, 128⟩, 16, 128)
  | "i128" => some (⟨true, 128⟩, 16, 128)
  | _ => none

/-- What the rest of the macro and the generated code depend on (`generator/mod.rs:27-38`). -/
structure Derive where
  repr : Prim
  reprName : String
  sizeGuess : Nat
  ubits : Nat
  /-- `(discriminant, (ident, name))`, value-sorted -/
  values : List (Int × (Name × Name))
  /-- `value_ranges` (kept for the gapless shape too; the Rust drops it there) -/
  ranges : List (Int × Int)
deriving Repr, Inhabited

def Derive.vals (D : Derive) : List Int := D.values.map (·.1)
def Derive.names (D : Derive) : List Name := D.values.map (·.2.2)
def Derive.numValues (D : Derive) : Nat := D.values.length
def Derive.gapless (D : Derive) : Bool := D.ranges.length == 1
def Derive.minKey (D : Derive) : Int := (D.vals.head?).getD 0
def Derive.maxKey (D : Derive) : Int := (D.vals.getLast?).getD 0

end ET
