/-
The target vocabulary of the template translator (`/verif/translate/translate_templates.py`):
one Lean definition per Rust construct that occurs inside the `quote!` templates of
`src/feature/**`.  `Generated/Templates.lean` is written in terms of these and of the tables of
`Gen.lean`; nothing here knows about a particular template.

Conventions: every Rust integer is an `Int` (the mathematical value); an enum value is its
discriminant; `&'static str` is a `Name`; a slice, an array or a std iterator over one is the
list of the elements it still yields (front first); `MaybeUninit<T>` is an `Option`.
Overflow checks are on (`+`/`-` panic), as in the dev/test profile the harness builds with.
-/
import EnumToolsModel.Iter
namespace ET.Rust

/-- the integer types a template mentions -/
inductive ITy | repr | urepr | usize
deriving Repr, DecidableEq, Inhabited

def ITy.prim (D : Derive) (t : Target) : ITy → Prim
  | .repr => D.repr
  | .urepr => ⟨false, D.ubits⟩
  | .usize => ⟨false, t.ptrBits⟩

/-- `x as T` (integer to integer, or field-less enum to integer) -/
def cast (p : Prim) (x : Int) : Int := p.wrap x
/-- `a.wrapping_add(b)` -/
def wrappingAdd (p : Prim) (a b : Int) : Int := p.wrap (a + b)
/-- `a.wrapping_sub(b)` -/
def wrappingSub (p : Prim) (a b : Int) : Int := p.wrap (a - b)
/-- `a + b` -/
def add (p : Prim) (a b : Int) : Res Int := if p.InRange (a + b) then .ok (a + b) else .panic .arithOverflow
/-- `a - b` -/
def sub (p : Prim) (a b : Int) : Res Int := if p.InRange (a - b) then .ok (a - b) else .panic .arithOverflow

/-- `TABLE[i]` -/
def index {α} (tbl : List α) (i : Int) : Res α := ET.index tbl i.toNat

/-- `TABLE[lo..hi]` with std's two panics -/
def sliceExcl {α} (tbl : List α) (lo hi : Int) : Res (List α) :=
  if lo > hi then .panic .sliceOrder
  else if hi > tbl.length then .panic .indexOOB
  else .ok ((tbl.drop lo.toNat).take (hi - lo).toNat)

/-- `o.unwrap_unchecked()` -/
def unwrapUnchecked {α} : Option α → Res α
  | some a => .ok a
  | none => .ub .unwrapUncheckedNone

/-- `m.assume_init()` -/
def assumeInit {α} : Option α → Res α
  | some a => .ok a
  | none => .ub .assumeInitUninit

/-- `o.map(|x| …)` whose closure can itself misbehave -/
def optMapM {α β} (o : Option α) (f : α → Res β) : Res (Option β) :=
  match o with
  | none => .ok none
  | some a => (f a).bind fun b => .ok (some b)

/-- `o.and_then(|x| …)` -/
def optAndThenM {α β} (o : Option α) (f : α → Res (Option β)) : Res (Option β) :=
  match o with
  | none => .ok none
  | some a => f a

/-- `iter.map(|x| …)`: the closure is applied to everything the iterator can yield -/
def mapM {α β} (f : α → Res β) : List α → Res (List β)
  | [] => .ok []
  | x :: rest => (f x).bind fun y => (mapM f rest).bind fun ys => .ok (y :: ys)

/-- `l.iter().enumerate()` -/
def enumFrom {α} : Nat → List α → List (Int × α)
  | _, [] => []
  | i, x :: xs => ((i : Int), x) :: enumFrom (i + 1) xs
def enumerate {α} (l : List α) : List (Int × α) := enumFrom 0 l

/-- `l.iter().position(p)` -/
def positionFrom {α} (p : α → Bool) : Nat → List α → Option Int
  | _, [] => none
  | k, x :: xs => if p x then some (k : Int) else positionFrom p (k + 1) xs
def position {α} (p : α → Bool) (l : List α) : Option Int := positionFrom p 0 l

/-- `for x in l { body }` where `body` can `return v` (`some v`) or fall through (`none`); `rest` is what follows the loop -/
def forRet {α β} : List α → (α → Res (Option β)) → (Unit → Res β) → Res β
  | [], _, rest => rest ()
  | x :: xs, body, rest =>
    match body x with
    | .ok (some v) => .ok v
    | .ok none => forRet xs body rest
    | .panic w => .panic w
    | .ub w => .ub w

/-- `for x in l { body }` where `body` only updates the variables in `σ` -/
def forFold {α σ} : List α → σ → (σ → α → Res σ) → Res σ
  | [], s, _ => .ok s
  | x :: xs, s, body => (body s x).bind fun s' => forFold xs s' body

/-- `loop { let r = it.next().unwrap_unchecked(); body }`: `body` sees `r`, the advanced iterator and
the loop-carried variables; it returns from the function (`.inl v`) or goes round again (`.inr σ`).
Running off the end of the iterator is the unchecked unwrap of a `None`. -/
def loopNext {α σ β} : List α → σ → (α → List α → σ → Res (Sum β σ)) → Res β
  | [], _, _ => .ub .unwrapUncheckedNone
  | r :: rest, s, body =>
    match body r rest s with
    | .ok (.inl v) => .ok v
    | .ok (.inr s') => loopNext rest s' body
    | .panic w => .panic w
    | .ub w => .ub w

/-- the same loop driven by `it.next_back()`: the list is the iterator's content back to front, and
`body` receives the advanced iterator front to back again -/
def loopNextBackRev {α σ β} : List α → σ → (α → List α → σ → Res (Sum β σ)) → Res β
  | [], _, _ => .ub .unwrapUncheckedNone
  | r :: rest, s, body =>
    match body r rest.reverse s with
    | .ok (.inl v) => .ok v
    | .ok (.inr s') => loopNextBackRev rest s' body
    | .panic w => .panic w
    | .ub w => .ub w

def loopNextBack {α σ β} (it : List α) (s : σ) (body : α → List α → σ → Res (Sum β σ)) : Res β :=
  loopNextBackRev it.reverse s body

/-- `match x { p₁ => e₁, …, }`: the first arm whose pattern equals the scrutinee -/
def matchFirst {κ β} [DecidableEq κ] (arms : List (κ × β)) (x : κ) : Option β :=
  (arms.find? (fun a => decide (a.1 = x))).map (·.2)

/-- an exhaustive `match` on an enum value: no arm means the value is not a variant -/
def matchEnum {β} (arms : List (Int × β)) (x : Int) : Res β :=
  match matchFirst arms x with
  | some b => .ok b
  | none => .ub .invalidEnumValue

end ET.Rust
