/-
`values.sort_by_key(|v| v.0)` applied to the entries of a map whose keys are distinct: the result
does not depend on the order in which the map yields them.  The loop of `parse_values` keeps the keys
distinct; its body is read through `pvStep_eq`, where the explicit and the implicit discriminant are one case.
(`pvStep_eq`, `pvLoop_invariant` and `pvLoop_nodup` stand here and not in `ParseValues` because `Thm/C17` needs them and nothing else of that file.)
-/
import EnumToolsModel.Lemmas.General
import EnumToolsModel.Parse
namespace ET

theorem sortByKey_perm {β : Type} (l : List (Int × β)) : (sortByKey l).Perm l := List.mergeSort_perm _ _

theorem sortByKey_length {β : Type} (l : List (Int × β)) : (sortByKey l).length = l.length := (sortByKey_perm l).length_eq

theorem sortByKey_eq_nil_iff {β : Type} (l : List (Int × β)) : sortByKey l = [] ↔ l = [] := by
  rw [← List.length_eq_zero_iff, sortByKey_length, List.length_eq_zero_iff]

theorem sortByKey_le {β : Type} (l : List (Int × β)) : (sortByKey l).Pairwise (fun a b => a.1 ≤ b.1) := by
  have := List.pairwise_mergeSort (le := fun (a b : Int × β) => decide (a.1 ≤ b.1))
    (fun a b c h1 h2 => by simp only [decide_eq_true_eq] at *; omega)
    (fun a b => by simp only [Bool.or_eq_true, decide_eq_true_eq]; omega) l
  exact this.imp (fun h => by simpa using h)

theorem sortByKey_lt {β : Type} (l : List (Int × β)) (hn : (l.map (·.1)).Nodup) :
    (sortByKey l).Pairwise (fun a b => a.1 < b.1) :=
  pairwise_lt_of_nodup (·.1) (((sortByKey_perm l).map _).nodup_iff.mpr hn) (sortByKey_le l)

theorem sortByKey_perm_invariant {β : Type} (l1 l2 : List (Int × β)) (hp : l1.Perm l2) (hn : (l1.map (·.1)).Nodup) :
    sortByKey l1 = sortByKey l2 :=
  sorted_perm_unique (·.1) hn (sortByKey_perm l1) ((sortByKey_perm l2).trans hp.symm) (sortByKey_le l1) (sortByKey_le l2)

/-- `HashMap::insert`: a key that is present keeps its place, and the keys stay as they are; a new one
goes to the end -/
theorem assocInsert_spec {β : Type} (k : Int) (v : β) (l : List (Int × β)) :
    if k ∈ l.map (·.1) then (assocInsert k v l).2 = true ∧ (assocInsert k v l).1.map (·.1) = l.map (·.1)
    else assocInsert k v l = (l ++ [(k, v)], false) := by
  fun_induction assocInsert k v l with
  | case1 => rfl
  | case2 v' rest => simp
  | case3 k' v' rest hne r b heq ih =>
    -- another key at the head: membership and result are those of the tail, with the head put back
    rw [heq] at ih
    simp only [mem_keys_cons, hne, false_or]
    by_cases hk' : k ∈ rest.map (·.1)
    · rw [if_pos hk'] at ih ⊢; exact ⟨ih.1, congrArg (k' :: ·) ih.2⟩
    · rw [if_neg hk'] at ih ⊢; cases ih; rfl

theorem assocInsert_fresh {β : Type} (k : Int) (v : β) (l : List (Int × β)) (h : k ∉ l.map (·.1)) :
    assocInsert k v l = (l ++ [(k, v)], false) := by
  have := assocInsert_spec k v l
  rwa [if_neg h] at this

theorem assocInsert_dup_iff {β : Type} (k : Int) (v : β) (l : List (Int × β)) :
    (assocInsert k v l).2 = true ↔ k ∈ l.map (·.1) := by
  have := assocInsert_spec k v l
  split at this
  · simp [*]
  · simp [*]

theorem assocInsert_nodup {β : Type} (k : Int) (v : β) (l : List (Int × β)) (hn : (l.map (·.1)).Nodup) :
    ((assocInsert k v l).1.map (·.1)).Nodup := by
  have := assocInsert_spec k v l
  split at this
  · rw [this.2]; exact hn
  · rename_i hk
    rw [this, List.map_append]
    exact (List.perm_append_singleton k _).nodup_iff.mpr (List.nodup_cons.mpr ⟨hk, hn⟩)

theorem insertValue_eq (st : PV) (errs : List Err) (ln : Option Name) (i : Int) (ident name : Name) :
    insertValue st errs ln i ident name =
      { values := (assocInsert i (ident, name) st.values).1, last := i, lastName := ln,
        errs := if (assocInsert i (ident, name) st.values).2 then errs ++ [.duplicateValue] else errs } := rfl

/-- the discriminant a loop iteration arrives at, with the errors of arriving at it; `.error`: nothing is inserted -/
def readStep (sorted : Sorted) (st : PV) (v : Variant) : Except Err (Int × List Err) :=
  match v.disc with
  | some d => (readDisc d).map fun i => (i, valueSortErrs sorted st i)
  | none => .ok (wrapI64 (st.last + 1), if st.last = i64Max then [.i64Overflow] else [])

/-- the loop body with its two ways of arriving at a discriminant folded into `readStep` -/
theorem pvStep_eq (sorted : Sorted) (st : PV) (v : Variant) :
    pvStep sorted st v = (processAttrs v.ident [] v.attrs).map fun (name, aerrs) =>
      let errs := st.errs ++ fieldErrs v ++ aerrs ++ nameSortErrs sorted st.lastName name
      let lastName := nextLastName sorted st.lastName name
      match readStep sorted st v with
      | .ok (i, e) => insertValue st (errs ++ e) lastName i v.ident name
      | .error e => { st with lastName := lastName, errs := errs ++ [e] } := by
  unfold pvStep readStep
  cases processAttrs v.ident [] v.attrs with
  | none => rfl
  | some r =>
    cases v.disc with
    | none => rfl
    | some d => dsimp only; cases readDisc d <;> rfl

theorem pvStep_nodup (sorted : Sorted) (st st' : PV) (v : Variant) (h : pvStep sorted st v = some st')
    (hn : (st.values.map (·.1)).Nodup) : (st'.values.map (·.1)).Nodup := by
  rw [pvStep_eq, Option.map_eq_some_iff] at h
  obtain ⟨r, _, rfl⟩ := h
  dsimp only
  -- an iteration leaves the map alone or inserts one entry
  cases readStep sorted st v with
  | error e => exact hn
  | ok r => exact assocInsert_nodup _ _ _ hn

theorem pvLoop_invariant (sorted : Sorted) (P : PV → Prop)
    (hstep : ∀ st st' v, pvStep sorted st v = some st' → P st → P st') :
    ∀ (vs : List Variant) (st st' : PV), pvLoop sorted st vs = some st' → P st → P st' := by
  intro vs st st' h hP
  fun_induction pvLoop sorted st vs with
  | case1 => cases h; exact hP
  | case2 => cases h
  | case3 st v rest st1 hs ih => exact ih h (hstep st st1 v hs hP)

theorem pvLoop_nodup (sorted : Sorted) : ∀ (vs : List Variant) (st st' : PV), pvLoop sorted st vs = some st' →
    (st.values.map (·.1)).Nodup → (st'.values.map (·.1)).Nodup :=
  pvLoop_invariant sorted _ (pvStep_nodup sorted)

end ET
