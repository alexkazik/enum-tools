/-
Concrete well-formed derives used by the non-vacuity `example`s next to the property theorems.
-/
import EnumToolsModel.Lemmas.WF
namespace ET

def nm (s : String) : Name := s.toUTF8.toList

/-- `#[repr(i8)] enum { A = -10, B = -5, C = -4, D = 3, E = 126, F = 127 }` with `B` renamed to `"bb"`
(three later runs, one at the type's MAX) -/
def exD1 : Derive :=
  { repr := ⟨true, 8⟩, reprName := "i8", sizeGuess := 1, ubits := 8,
    values := [(-10, ([65], [65])), (-5, ([66], [98, 98])), (-4, ([67], [67])), (3, ([68], [68])), (126, ([69], [69])), (127, ([70], [70]))],
    ranges := [(-10, -10), (-5, -4), (3, 3), (126, 127)] }

theorem exD1_WF : exD1.WF := by
  constructor <;> decide

/-- `#[repr(u8)] enum { A = 253, B = 254, C = 255 }` gapless at the type's MAX -/
def exD2 : Derive :=
  { repr := ⟨false, 8⟩, reprName := "u8", sizeGuess := 1, ubits := 8,
    values := [(253, ([65], [65])), (254, ([66], [66])), (255, ([67], [67]))],
    ranges := [(253, 255)] }

theorem exD2_WF : exD2.WF := by
  constructor <;> decide

/-- `#[repr(i8)] enum { A = -128, B = -127, C = 5 }` first run at the type's MIN -/
def exD3 : Derive :=
  { repr := ⟨true, 8⟩, reprName := "i8", sizeGuess := 1, ubits := 8,
    values := [(-128, ([65], [65])), (-127, ([66], [66])), (5, ([67], [67]))],
    ranges := [(-128, -127), (5, 5)] }

theorem exD3_WF : exD3.WF := by
  constructor <;> decide

end ET
