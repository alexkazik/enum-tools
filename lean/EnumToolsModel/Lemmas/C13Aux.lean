/-
The attribute engine loses nothing: the `get` functions and `FeatureX::parse` hand on the map without the key they looked
up, so what nobody asks for is still there at `finish` (`parseFeatures_keeps_unknown`, `steps_keep`); `parseParams` and
`parseItems` only append to the error list.
-/
import EnumToolsModel.Lemmas.General
import EnumToolsModel.Config
namespace ET.Thm

theorem smapRemove_cons_eq {β : Type} (k : String) (a : String × β) (t : List (String × β)) (h : a.1 = k) :
    smapRemove k (a :: t) = (some a.2, t) := by
  obtain ⟨k0, v0⟩ := a; simp only at h; simp [smapRemove, h]

theorem smapRemove_cons_ne {β : Type} (k : String) (a : String × β) (t : List (String × β)) (h : a.1 ≠ k) :
    smapRemove k (a :: t) = ((smapRemove k t).1, a :: (smapRemove k t).2) := by
  obtain ⟨k0, v0⟩ := a; simp only at h; simp [smapRemove, h]

theorem smapRemove_of_fst {β : Type} {k : String} {l : List (String × β)} {v : Option β} (h : (smapRemove k l).1 = v) :
    smapRemove k l = (v, (smapRemove k l).2) := Prod.ext h rfl

theorem smapRemove_isSome {β : Type} (k : String) : ∀ (l : List (String × β)),
    (smapRemove k l).1.isSome = true ↔ k ∈ l.map (·.1) := by
  intro l
  induction l with
  | nil => simp [smapRemove]
  | cons a t ih =>
    rw [mem_keys_cons]
    by_cases h : a.1 = k
    · rw [smapRemove_cons_eq k a t h]; exact ⟨fun _ => .inl h, fun _ => rfl⟩
    · rw [smapRemove_cons_ne k a t h, ih]; exact (or_iff_right h).symm

theorem mem_keys_congr {β : Type} {k : String} {l l' : List (String × β)} (h : (smapRemove k l').1 = (smapRemove k l).1) :
    k ∈ l'.map (·.1) ↔ k ∈ l.map (·.1) := by
  rw [← smapRemove_isSome, ← smapRemove_isSome, h]

theorem smapRemove_other {β : Type} (k k' : String) (hne : k' ≠ k) : ∀ (l : List (String × β)),
    (smapRemove k' (smapRemove k l).2).1 = (smapRemove k' l).1 := by
  intro l
  induction l with
  | nil => rfl
  | cons a t ih =>
    by_cases h : a.1 = k
    · rw [smapRemove_cons_eq k a t h, smapRemove_cons_ne k' a t (fun e => hne (e.symm.trans h))]
    · rw [smapRemove_cons_ne k a t h]
      by_cases h' : a.1 = k'
      · rw [smapRemove_cons_eq k' a _ h', smapRemove_cons_eq k' a t h']
      · rw [smapRemove_cons_ne k' a _ h', smapRemove_cons_ne k' a t h']
        exact ih

/-- whatever else they compute, the `get` functions and `FeatureX::parse` hand on the map without the key they looked up -/
theorem getVis_snd (pm : ParamMap) : (getVis pm).2.1 = (smapRemove "vis" pm).2 := by
  unfold getVis
  split <;> next h => rw [h]

theorem getStrOpt_snd (key : String) (pm : ParamMap) : (getStrOpt key pm).2.1 = (smapRemove key pm).2 := by
  unfold getStrOpt
  split <;> next h => rw [h]

theorem parseFeature_snd (spec : FeatSpec) (fm : FeatureMap) : (parseFeature spec fm).2.1 = (smapRemove spec.key fm).2 := by
  unfold parseFeature
  split <;> next h => rw [h]

/-- a feature key that no `FeatureX::parse` asks for stays in the map (and `finish()` reports it) -/
theorem parseFeatures_keeps_unknown (k : String) : ∀ (specs : List FeatSpec) (fs : Features) (fm : FeatureMap) (errs : List Err),
    (∀ s ∈ specs, s.key ≠ k) → k ∈ fm.map (·.1) → k ∈ (parseFeatures specs fs fm errs).2.1.map (·.1) := by
  intro specs
  induction specs with
  | nil => intro fs fm errs _ h; exact h
  | cons s rest ih =>
    intro fs fm errs hk h
    unfold parseFeatures
    dsimp only
    apply ih _ _ _ (fun s' hs' => hk s' (List.mem_cons_of_mem _ hs'))
    have hne : k ≠ s.key := fun e => hk s List.mem_cons_self e.symm
    rw [parseFeature_snd]
    exact (mem_keys_congr (smapRemove_other s.key k hne fm)).mpr h

theorem getStrOpt_keeps (key k : String) (hne : k ≠ key) (pm : ParamMap) :
    (smapRemove k (getStrOpt key pm).2.1).1 = (smapRemove k pm).1 := by
  rw [getStrOpt_snd]; exact smapRemove_other key k hne pm

theorem getVis_keeps (k : String) (hne : k ≠ "vis") (pm : ParamMap) :
    (smapRemove k (getVis pm).2.1).1 = (smapRemove k pm).1 := by
  rw [getVis_snd]; exact smapRemove_other "vis" k hne pm

/-- which parameter names a feature asks for -/
def asksFor (spec : FeatSpec) (k : String) : Prop :=
  (spec.hasVisName = true ∧ (k = "vis" ∨ k = "name")) ∨ spec.structKey = some k ∨ (spec.modeKind ≠ .none ∧ k = "mode")

/-- a parameter the feature does not ask for survives all three steps, with its value -/
theorem steps_keep (spec : FeatSpec) (k : String) (hk : ¬ asksFor spec k) (pm : ParamMap) :
    let pm3 := (stepMode spec (stepStruct spec (stepVisName spec pm).2.2.1).2.1).2.1
    (k ∈ pm3.map (·.1) ↔ k ∈ pm.map (·.1)) ∧ (smapRemove k pm3).1 = (smapRemove k pm).1 := by
  unfold asksFor at hk
  simp only [not_or, not_and] at hk
  obtain ⟨h1, h2, h3⟩ := hk
  -- none of the three steps looks `k` up
  have s1 : (smapRemove k (stepVisName spec pm).2.2.1).1 = (smapRemove k pm).1 := by
    fun_cases stepVisName spec pm with
    | case1 hv r1 r2 => exact (getStrOpt_keeps "name" k (h1 hv).2 _).trans (getVis_keeps k (h1 hv).1 pm)
    | case2 hv => rfl
  have s2 : ∀ q : ParamMap, (smapRemove k (stepStruct spec q).2.1).1 = (smapRemove k q).1 := by
    intro q
    fun_cases stepStruct spec q with
    | case1 sk hs => exact getStrOpt_keeps sk k (fun e => h2 (by rw [hs, e])) q
    | case2 hs => rfl
  have s3 : ∀ q : ParamMap, (smapRemove k (stepMode spec q).2.1).1 = (smapRemove k q).1 := by
    intro q
    -- a feature without modes looks nothing up; one with modes looks up "mode", whether or not the value is a valid one
    fun_cases stepMode spec q with
    | case1 hm => rfl
    | case2 r m hc hm | case3 r m hc hm => exact getStrOpt_keeps "mode" k (h3 hm) q
  have hl := (s3 _).trans ((s2 _).trans s1)
  exact ⟨mem_keys_congr hl, hl⟩

theorem parseParams_errs : ∀ (ps : List Param) (pm : ParamMap) (errs : List Err) (r : ParamMap × List Err),
    parseParams pm errs ps = some r → ∃ e, r.2 = errs ++ e := by
  intro ps pm errs r h
  -- along the arms of `parseParams`: every arm that goes on does so with `errs ++ x` for some `x`
  -- (1 no parameter; 2 a flag; 3 `name = literal`; 4, 5 aborts; 6 anything else)
  fun_induction parseParams pm errs ps with
  | case1 => cases h; exact ⟨[], (List.append_nil _).symm⟩
  | case2 pm errs n rest pm' dup hi ih | case3 pm errs n l rest pm' dup hi ih =>
    rw [ite_append] at ih h; exact exists_append_of_append (ih h)
  | case4 | case5 => cases h
  | case6 pm errs rest ih => exact exists_append_of_append (ih h)

theorem parseItems_errs : ∀ (items : List CfgItem) (fm : FeatureMap) (errs : List Err) (r : FeatureMap × List Err),
    parseItems fm errs items = some r → ∃ e, r.2 = errs ++ e := by
  intro items fm errs r h
  -- (1 no item; 2 a path; 3-6 aborts; 7 a list whose parameters parse; 8 anything else)
  fun_induction parseItems fm errs items with
  | case1 => cases h; exact ⟨[], (List.append_nil _).symm⟩
  | case2 fm errs n rest fm' dup hi ih => rw [ite_append] at ih h; exact exists_append_of_append (ih h)
  | case3 | case4 | case5 | case6 => cases h
  | case7 fm errs n ps rest pm errs' hp fm' dup hi ih =>
    -- the parameters of the item added `e1`, the item itself adds to that
    obtain ⟨e1, rfl⟩ := parseParams_errs _ [] errs (pm, errs') hp
    rw [ite_append] at ih h
    exact exists_append_of_append (exists_append_of_append (ih h))
  | case8 fm errs rest ih => exact exists_append_of_append (ih h)

theorem smapInsert_dup_iff {β : Type} (k : String) (v : β) : ∀ (l : List (String × β)), (smapInsert k v l).2 = true ↔ k ∈ l.map (·.1) := by
  intro l
  induction l with
  | nil => simp [smapInsert]
  | cons a t ih =>
    unfold smapInsert
    rw [mem_keys_cons]
    by_cases h : a.1 = k
    · simp only [h, if_true, true_or]
    · simp only [h, if_false, false_or, ih]

end ET.Thm
