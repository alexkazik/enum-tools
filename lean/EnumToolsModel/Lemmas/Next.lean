/-
`next` / `next_back` (`next_fn.rs`, `next_back_fn.rs`) return the neighbours of `v` in the ascending list of discriminants
(`Derive.WF.next_of_split`).  With holes the loop passes the entries before the run of `v` (from the other end for
`next_back`), steps inside the run with `wrapping_add(1)` / `wrapping_sub(1)`, and from its end falls over into the adjacent run.
-/
import EnumToolsModel.Lemmas.Scan
import EnumToolsModel.Lemmas.General
namespace ET

theorem nextLoop_skip (D : Derive) (v : Int) {P : List RangeEntry} (hP : ∀ q ∈ P, q.contains v = false)
    (l : List RangeEntry) : nextLoop D v (P ++ l) = nextLoop D v l := by
  induction P with
  | nil => rfl
  | cons q P ih =>
    simp only [List.cons_append, nextLoop, hP q (List.mem_cons_self ..), Bool.false_eq_true, if_false]
    exact ih fun q' hq' => hP q' (List.mem_cons_of_mem _ hq')

theorem nextBackLoop_skip (D : Derive) (v : Int) {P : List RangeEntry} (hP : ∀ q ∈ P, q.contains v = false)
    (l : List RangeEntry) : nextBackLoop D v (P ++ l) = nextBackLoop D v l := by
  induction P with
  | nil => rfl
  | cons q P ih =>
    simp only [List.cons_append, nextBackLoop, hP q (List.mem_cons_self ..), Bool.false_eq_true, if_false]
    exact ih fun q' hq' => hP q' (List.mem_cons_of_mem _ hq')

namespace Derive.WF
variable {D : Derive} (h : D.WF)
include h

/-- With holes the table has an entry besides `r`, and what it expands to lies within the type below
`r.start` or above `r.stop`: `r` does not reach both ends of the type.  So a `wrapping_add(1)` that
wraps around from the type's MAX does not land in the same run again. -/
theorem run_proper (hg : D.gapless = false) {P R : List RangeEntry} {r : RangeEntry} (ht : tableRange D = P ++ r :: R) :
    D.repr.lo < r.start ∨ r.stop < D.repr.hi := by
  have hpw := h.table_pairwise
  rw [ht] at hpw
  cases P with
  | cons q P' =>
    have hq : q ∈ tableRange D := by rw [ht]; simp
    have : q.stop + 1 < r.start := hpw.rel_of_mem_append (List.mem_cons_self ..) (List.mem_cons_self ..)
    have := (h.inRange _ (h.stop_mem hq)).1
    exact .inl (by omega)
  | nil =>
    cases R with
    | nil => simp [Derive.gapless, ← h.table_length, ht] at hg
    | cons q R' =>
      have hq : q ∈ tableRange D := by rw [ht]; simp
      have : r.stop + 1 < q.start := List.rel_of_pairwise_cons hpw (List.mem_cons_self ..)
      have := (h.inRange _ (h.start_mem hq)).2
      exact .inr (by omega)

theorem nextLoop_run {P R : List RangeEntry} {r : RangeEntry} (ht : tableRange D = P ++ r :: R)
    (hp : D.repr.lo < r.start ∨ r.stop < D.repr.hi) {v : Int} (h1 : r.start ≤ v) (h2 : v ≤ r.stop) :
    nextLoop D v (r :: R) = .ok (interval (v + 1) r.stop ++ expandT R).head? := by
  have hc : r.contains v = true := (r.contains_iff v).mpr ⟨h1, h2⟩
  have hr : r ∈ tableRange D := by rw [ht]; simp
  rcases Int.lt_or_eq_of_le h2 with hlt | rfl
  · -- inside the run: the neighbour is `v + 1`, a value of the type, so nothing wraps
    have hle : r.start ≤ v + 1 := by omega
    have hm : v + 1 ∈ D.vals := h.mem_of_entry hr hle hlt
    have hc' : r.contains (v + 1) = true := (r.contains_iff _).mpr ⟨hle, hlt⟩
    rw [interval_cons _ _ hlt]
    simp only [nextLoop, hc, h.wrap_val hm, hc', if_true, transmute_of_mem D _ hm, Res.bind_ok, List.cons_append,
      List.head?_cons]
  · -- last of the run: `v + 1`, wrapped or not, is outside the run; the next run starts with the neighbour
    have hc' : r.contains (D.repr.wrap (r.stop + 1)) = false :=
      (r.not_contains_iff _).mpr (D.repr.wrap_succ_outside h.bits_pos (h.inRange _ (h.stop_mem hr)) hp)
    rw [interval_empty _ _ (Int.lt_succ _), List.nil_append]
    cases R with
    | nil => simp only [nextLoop, hc, hc', if_true, Bool.false_eq_true, if_false]; rfl
    | cons q R' =>
      have hq : q ∈ tableRange D := by rw [ht]; simp
      rw [expandT_cons, interval_cons _ _ (h.entry_le hq)]
      simp only [nextLoop, hc, hc', if_true, Bool.false_eq_true, if_false, Res.bind_ok, List.cons_append, List.head?_cons,
        transmute_of_mem D _ (h.start_mem hq)]

theorem nextBackLoop_run {P R : List RangeEntry} {r : RangeEntry} (ht : tableRange D = P ++ r :: R)
    (hp : D.repr.lo < r.start ∨ r.stop < D.repr.hi) {v : Int} (h1 : r.start ≤ v) (h2 : v ≤ r.stop) :
    nextBackLoop D v (r :: P.reverse) = .ok (expandT P ++ interval r.start (v - 1)).getLast? := by
  have hc : r.contains v = true := (r.contains_iff v).mpr ⟨h1, h2⟩
  have hr : r ∈ tableRange D := by rw [ht]; simp
  rcases Int.lt_or_eq_of_le h1 with hlt | rfl
  · have hlt : r.start ≤ v - 1 := by omega
    have hle : v - 1 ≤ r.stop := by omega
    have hm : v - 1 ∈ D.vals := h.mem_of_entry hr hlt hle
    have hc' : r.contains (v - 1) = true := (r.contains_iff _).mpr ⟨hlt, hle⟩
    rw [interval_snoc _ _ hlt, ← List.append_assoc, List.getLast?_concat]
    simp only [nextBackLoop, hc, h.wrap_val hm, hc', if_true, transmute_of_mem D _ hm, Res.bind_ok]
  · have hc' : r.contains (D.repr.wrap (r.start - 1)) = false :=
      (r.not_contains_iff _).mpr (D.repr.wrap_pred_outside h.bits_pos (h.inRange _ (h.start_mem hr)) hp)
    -- the last element of a `flatMap` is looked for from the back: over `P.reverse`, which is the loop's own argument
    rw [interval_empty _ _ (by omega), List.append_nil, expandT, List.getLast?_flatMap]
    cases hP : P.reverse with
    | nil => simp only [nextBackLoop, hc, hc', if_true, Bool.false_eq_true, if_false]; rfl
    | cons q Q =>
      have hq : q ∈ tableRange D := by
        rw [ht]; exact List.mem_append_left _ (List.mem_reverse.mp (hP ▸ List.mem_cons_self ..))
      rw [List.findSome?_cons, interval_snoc _ _ (h.entry_le hq), List.getLast?_concat]
      simp only [nextBackLoop, hc, hc', if_true, Bool.false_eq_true, if_false, Res.bind_ok,
        transmute_of_mem D _ (h.stop_mem hq)]

theorem holes_neighbours (hg : D.gapless = false) {v : Int} (hv : v ∈ D.vals) :
    ∃ A B, D.vals = A ++ v :: B ∧ nextHoles D v = .ok B.head? ∧ nextBackHoles D v = .ok A.getLast? := by
  obtain ⟨P, r, R, ht, hvals, h1, h2, hP, hR, -⟩ := h.run_of hv
  have hp := h.run_proper hg ht
  refine ⟨expandT P ++ interval r.start (v - 1), interval (v + 1) r.stop ++ expandT R, ?_, ?_, ?_⟩
  · rw [hvals, interval_split _ _ _ h1 h2]
    simp only [List.append_assoc, List.cons_append]
  · rw [nextHoles, ht, nextLoop_skip D v hP]
    exact h.nextLoop_run ht hp h1 h2
  · rw [nextBackHoles, ht, List.reverse_append, List.reverse_cons, List.append_assoc, List.singleton_append,
      nextBackLoop_skip D v fun q hq => hR q (List.mem_reverse.mp hq)]
    exact h.nextBackLoop_run ht hp h1 h2

theorem gapless_neighbours (hg : D.gapless = true) {v : Int} (hv : v ∈ D.vals) :
    ∃ A B, D.vals = A ++ v :: B ∧ nextGapless D v = .ok B.head? ∧ nextBackGapless D v = .ok A.getLast? := by
  obtain ⟨h1, h2⟩ := (h.mem_gapless hg v).mp hv
  refine ⟨interval D.minKey (v - 1), interval (v + 1) D.maxKey, ?_, ?_, ?_⟩
  · rw [← interval_split _ _ _ h1 h2]; exact h.gapless_interval hg
  · unfold nextGapless maxC
    by_cases hmax : v = D.maxKey
    · rw [if_pos hmax, interval_empty _ _ (by omega)]; rfl
    · -- `v + 1` is a variant, hence a value of the type: the overflow check passes
      have hlt : v + 1 ≤ D.maxKey := by omega
      have hm : v + 1 ∈ D.vals := (h.mem_gapless hg _).mpr ⟨by omega, hlt⟩
      rw [if_neg hmax, if_neg (Int.not_lt.mpr (h.inRange _ hm).2), transmute_of_mem D _ hm, interval_cons _ _ hlt]; rfl
  · unfold nextBackGapless minC
    by_cases hmin : v = D.minKey
    · rw [if_pos hmin, interval_empty _ _ (by omega)]; rfl
    · have hlt : D.minKey ≤ v - 1 := by omega
      have hm : v - 1 ∈ D.vals := (h.mem_gapless hg _).mpr ⟨hlt, by omega⟩
      rw [if_neg hmin, if_neg (Int.not_lt.mpr (h.inRange _ hm).1), transmute_of_mem D _ hm, interval_snoc _ _ hlt,
        List.getLast?_concat]; rfl

theorem neighbours {v : Int} (hv : v ∈ D.vals) :
    ∃ A B, D.vals = A ++ v :: B ∧ nextFn D v = .ok B.head? ∧ nextBackFn D v = .ok A.getLast? := by
  unfold nextFn nextBackFn
  cases hg : D.gapless with
  | true => exact h.gapless_neighbours hg hv
  | false => exact h.holes_neighbours hg hv

theorem next_find {v : Int} (hv : v ∈ D.vals) :
    nextFn D v = .ok (D.vals.find? fun y => decide (v < y)) ∧
    nextBackFn D v = .ok (D.vals.reverse.find? fun y => decide (y < v)) := by
  obtain ⟨A, B, hAB, hn, hb⟩ := h.neighbours hv
  have hs := h.sorted
  rw [hAB] at hs
  rw [hn, hb, hAB, find_gt_split hs, rfind_lt_split hs]
  exact ⟨rfl, rfl⟩

/-- hence for every way of writing the discriminants as `A ++ v :: B`: `find?` does not see how the
list was written, and an ascending list splits at `v` in one way only -/
theorem next_of_split {A B : List Int} {v : Int} (hAB : D.vals = A ++ v :: B) :
    nextFn D v = .ok B.head? ∧ nextBackFn D v = .ok A.getLast? := by
  have hs := h.sorted
  rw [hAB] at hs
  have := h.next_find (v := v) (by rw [hAB]; simp)
  rwa [hAB, find_gt_split hs, rfind_lt_split hs] at this

end Derive.WF
end ET
