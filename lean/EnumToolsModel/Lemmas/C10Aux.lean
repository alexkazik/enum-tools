/-
What Thm/C10 rests on: the three `abort!`s as one condition (`no_abort_iff`), the flags no rule sets, the closure check row
by row over the regenerated `usesTable` (`uses_gapless`, `uses_derivable`, `uses_subset_closure`), the documentation against the catalogue.
-/
import EnumToolsModel.Lemmas.Resolve
import EnumToolsModel.Generated.Uses
import EnumToolsModel.Generated.Docs
import EnumToolsModel.Generated.Catalog
namespace ET.Thm
open ET.Generated

/-- `range` needs `iter`, not in mode table_inline; iter mode `range` needs a gapless enum -/
def LegalCfg (sh : Shape) (fl : Flags) (m : Modes) : Prop :=
  (.range ∈ fl → .iter ∈ fl ∧ m.iter ≠ .tableInline) ∧ (.iter ∈ fl → m.iter = .range → sh.gapless = true)

/-! ### the `abort!`s -/

/-- the `abort!`s found in the code on this run are exactly the three that `LegalCfg` excludes -/
theorem aborts_are_the_documented_ones :
    (aborts.map (fun a => (a.src, a.guard, a.unlessFlag))) =
      [(.range, [], some .iter), (.range, [.iterIn [.tableInline]], none), (.iter, [.iterIn [.range], .holes], none)] := by
  decide +kernel

theorem no_abort_iff (sh : Shape) (fl : Flags) (m : Modes) :
    aborts.find? (abortFires m sh.gapless fl) = none ↔ LegalCfg sh fl m := by
  unfold LegalCfg
  generalize sh.gapless = g
  -- whether an abort stays silent depends only on the three fields listed above
  have key : (∀ a ∈ aborts, abortFires m g fl a = false) ↔
      ∀ t ∈ aborts.map (fun a => (a.src, a.guard, a.unlessFlag)),
        t.1 ∈ fl → guardHolds m g t.2.1 = true → ∃ f, t.2.2 = some f ∧ f ∈ fl := by
    simp only [List.mem_map, forall_exists_index, and_imp, forall_apply_eq_imp_iff₂, abortFires_eq_false]
  rw [List.find?_eq_none]
  simp only [Bool.not_eq_true]
  rw [key, aborts_are_the_documented_ones]
  -- three literal rows: spelled out, they are the three conjuncts of `LegalCfg`
  simp [guardHolds, Atom.eval, imp_and, and_assoc]

/-! ### flags only the user can set -/

def userOnly : Flags := [.range, .iter, .fromStrFn, .fromStrTrait, .debug, .display, .intoStr]

/-- This is also what lets `resolveWith` (Macro.lean) test the `abort!`s before each pass although the Rust aborts inside it
(the `check`s of `range_fn.rs`, `iter/range.rs`): their conditions read `range`, `iter`, the modes and the shape only. -/
theorem userOnly_unset : ∀ f ∈ userOnly, ∀ r ∈ rules, f ∉ r.sets := by decide +kernel

theorem userOnly_run (m : Modes) (g : Bool) (fl : Flags) {f : Flag} (hf : f ∈ userOnly) : f ∈ runRules rules m g fl ↔ f ∈ fl :=
  run_frame m g rules fl f (userOnly_unset f hf)

theorem userOnly_afterAuto (sh : Shape) (fl : Flags) (m : Modes) (f : Flag) (hf : f ∈ userOnly) :
    f ∈ afterAuto sh fl m ↔ f ∈ fl := by
  have hne : f ≠ .tableName := by rintro rfl; revert hf; decide
  rw [← userOnly_run m sh.gapless fl hf]
  exact ⟨fun h => ((autoFlags_spec sh _ m f).2 h).resolve_right hne, (autoFlags_spec sh _ m f).1⟩

theorem asStr_rules : ∀ r ∈ rules, .asStr ∈ r.sets → r.guard = [] ∧ r.src ∈ userOnly := by decide +kernel

/-- so `as_str` is enabled by the second pass only if it already was after the first: its mode was picked by `auto` -/
theorem asStr_stable (sh : Shape) (fl : Flags) (m m' : Modes)
    (h : .asStr ∈ runRules rules m' sh.gapless (afterAuto sh fl m)) : .asStr ∈ afterAuto sh fl m := by
  rcases run_origin m' sh.gapless rules _ _ h with h1 | ⟨r, hr, hs, _, hsrc⟩
  · exact h1
  · obtain ⟨hg, hu⟩ := asStr_rules r hr hs
    -- the rule's source was enabled by the user, so the rule already fired in the first pass
    have hsrc0 : r.src ∈ fl := (userOnly_afterAuto sh fl m _ hu).mp ((userOnly_run m' sh.gapless _ hu).mp hsrc)
    have := run_sat m sh.gapless rules fl rules_ordered r hr (run_mono m sh.gapless rules fl _ hsrc0) (by rw [hg]; rfl) _ hs
    exact (autoFlags_spec sh _ m _).1 this

/-! ### closure: what the templates reference follows from the rules -/

/-- what an enabled feature brings with it before the rules run: itself, and the features without which it aborts.  The latter
only for a feature no rule sets: such a feature was enabled before the pass, when the `abort!`s were tested (`C10_closure`). -/
def seedOf (f : Flag) : Flags :=
  f :: aborts.filterMap (fun a => if a.src == f && a.guard.isEmpty && rules.all (fun r => !r.sets.contains f) then a.unlessFlag else none)

theorem mem_seedOf (f x : Flag) :
    x ∈ seedOf f ↔ x = f ∨ ∃ a ∈ aborts, a.src = f ∧ a.guard = [] ∧ (∀ r ∈ rules, f ∉ r.sets) ∧ a.unlessFlag = some x := by
  simp only [seedOf, List.mem_cons, List.mem_filterMap, Option.ite_none_right_eq_some, Bool.and_eq_true, beq_iff_eq,
    List.isEmpty_iff, List.all_eq_true, Bool.not_eq_true', List.contains_eq_mem, decide_eq_false_iff_not, and_assoc]

/-- the consequences of one enabled feature under the rules -/
def closureOf (m : Modes) (g : Bool) (f : Flag) : Flags := runRules rules m g (seedOf f)

/-- decidable, over the regenerated tables: every item referenced by a template of `f` (mode `m`, shape `g`)
is a consequence of `f` (and of the features `f` cannot be enabled without) -/
def usesCovered : Bool :=
  Flag.all.all fun f => Modes.all.all fun m => [true, false].all fun g => (uses f m g).all fun u => (closureOf m g f).contains u

theorem mem_uses (f u : Flag) (m : Modes) (g : Bool) :
    u ∈ uses f m g ↔ ∃ row ∈ usesTable, row.1 = f ∧ guardHolds m g row.2.1 = true ∧ u ∈ row.2.2 := by
  simp only [uses, List.mem_flatMap, List.mem_filter, Bool.and_eq_true, beq_iff_eq, and_assoc]

/-- every template that names the run table or its offsets sits under the `holes` condition -/
theorem uses_gapless (f u : Flag) (m : Modes) (hu : u ∈ uses f m true) : u ≠ .tableRange ∧ u ≠ .tableRangeOfs := by
  have rows : ∀ row ∈ usesTable, .holes ∈ row.2.1 ∨ (.tableRange ∉ row.2.2 ∧ .tableRangeOfs ∉ row.2.2) := by
    decide +kernel
  obtain ⟨row, hrow, _, hG, hur⟩ := (mem_uses f u m true).mp hu
  rcases rows row hrow with hh | hn
  · have := List.all_eq_true.mp hG _ hh
    simp [Atom.eval] at this
  · exact ⟨fun e => hn.1 (e ▸ hur), fun e => hn.2 (e ▸ hur)⟩

/-- row by row: what a template references is derived from its feature by rules whose guards follow from the
condition the template sits under -/
theorem uses_derivable :
    ∀ row ∈ usesTable, ∀ u ∈ row.2.2, u ∈ runRules (firedUnder row.2.1 rules) {} true (seedOf row.1) := by
  decide +kernel

theorem uses_subset_closure (f u : Flag) (m : Modes) (g : Bool) (hu : u ∈ uses f m g) : u ∈ closureOf m g f := by
  obtain ⟨row, hrow, rfl, hG, hur⟩ := (mem_uses f u m g).mp hu
  exact runRules_firedUnder m g row.2.1 hG {} true rules _ _ (fun x hx => hx) u (uses_derivable row hrow u hur)

theorem uses_covered : usesCovered = true := by
  simp only [usesCovered, List.all_eq_true, List.contains_iff_mem]
  exact fun f _ m _ g _ u hu => uses_subset_closure f u m g hu

/-! ### the documentation against the catalogue -/

def acceptedParams (s : FeatSpec) : List String :=
  (if s.hasVisName then ["vis", "name"] else []) ++ (match s.structKey with | some k => [k] | none => []) ++
    (match s.modeKind with | .none => [] | _ => ["mode"])

def documentedParams (d : DocFeature) : List String := d.params ++ (if d.sig.isSome then ["name", "vis"] else [])

def specOf (k : String) : Option FeatSpec := catalog.find? (·.key == k)

/-! ### one attribute or several -/

theorem parseItems_append (a b : List CfgItem) : ∀ (fm : FeatureMap) (errs : List Err),
    parseItems fm errs (a ++ b) = (match parseItems fm errs a with | none => none | some (fm', errs') => parseItems fm' errs' b) := by
  intro fm errs
  -- along the arms of `parseItems` on `a`: the first item is treated alike on both sides
  -- (1 no item; 2 a path; 3-5 aborts; 6, 7 a list whose parameters abort / parse; 8 anything else)
  fun_induction parseItems fm errs a with
  | case1 => rfl
  | case2 fm errs n rest fm' dup hi ih => simp only [List.cons_append, parseItems, hi, ih]
  | case3 | case4 | case5 => rfl
  | case6 fm errs n ps rest hp => simp only [List.cons_append, parseItems, hp]
  | case7 fm errs n ps rest pm errs' hp fm' dup hi ih => simp only [List.cons_append, parseItems, hp, hi, ih]
  | case8 fm errs rest ih => exact ih

end ET.Thm
