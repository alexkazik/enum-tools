/-
range(a, b): positions of the end points, the MaybeUninit loop, the filter of a sorted list, and which initial
states of `iter()` / `range()` are cursors.
-/
import EnumToolsModel.Lemmas.IterSim
import EnumToolsModel.Lemmas.Index
import EnumToolsModel.Lemmas.General
namespace ET

theorem filter_interval (lo hi a b : Int) (ha : lo ≤ a) (hb : b ≤ hi) :
    (interval lo hi).filter (fun v => decide (a ≤ v) && decide (v ≤ b)) = interval a b := by
  apply sorted_ext_int _ _ ((interval_pairwise lo hi).filter _) (interval_pairwise a b)
  intro x
  simp only [List.mem_filter, mem_interval, Bool.and_eq_true, decide_eq_true_eq]
  omega

/-- the variants between the i-th and the j-th smallest, inclusive -/
theorem filter_between_sorted (vals : List Int) (hs : vals.Pairwise (· < ·)) (ia ib : Nat)
    (ha : ia < vals.length) (hb : ib < vals.length) :
    vals.filter (fun v => decide (vals[ia] ≤ v) && decide (v ≤ vals[ib])) = absList vals ia (ib + 1 - ia) := by
  apply sorted_ext_int
  · exact hs.filter _
  · exact hs.sublist ((List.take_sublist _ _).trans (List.drop_sublist _ _))
  · intro x
    rw [List.mem_filter, mem_absList, List.mem_iff_getElem]
    simp only [Bool.and_eq_true, decide_eq_true_eq, List.getElem?_eq_some_iff]
    constructor
    · rintro ⟨⟨j, hj, rfl⟩, h1, h2⟩
      rw [sorted_getElem_le_iff hs] at h1 h2
      exact ⟨j, h1, by omega, hj, rfl⟩
    · rintro ⟨j, h1, h2, hj, rfl⟩
      exact ⟨⟨j, hj, rfl⟩, (sorted_getElem_le_iff hs ha hj).mpr h1, (sorted_getElem_le_iff hs hj hb).mpr (by omega)⟩

/-- one slot of the `MaybeUninit` loop: written at every entry that contains `x` -/
def rangeSlot (D : Derive) (t : Target) (x : Int) (tbl : List RangeEntry) (a : Option Nat) : Option Nat :=
  tbl.foldl (fun a r => if r.contains x then some (toIndex D t (D.repr.wrap (x - r.ofs))) else a) a

theorem rangeIdxLoop_eq (D : Derive) (t : Target) (s e : Int) : ∀ (tbl : List RangeEntry) (si ei : Option Nat),
    rangeIdxLoop D t s e tbl (si, ei) = (rangeSlot D t s tbl si, rangeSlot D t e tbl ei)
  | [], _, _ => rfl
  | r :: tbl, si, ei => by rw [rangeIdxLoop, rangeIdxLoop_eq]; rfl

/-- the slot is written at the run `r` of `x`, and no later entry overwrites it -/
theorem rangeSlot_run (D : Derive) (t : Target) (x : Int) {P R : List RangeEntry} {r : RangeEntry}
    (hc : r.contains x = true) (hR : ∀ q ∈ R, q.contains x = false) (a : Option Nat) :
    rangeSlot D t x (P ++ r :: R) a = some (toIndex D t (D.repr.wrap (x - r.ofs))) := by
  rw [rangeSlot, List.foldl_append, List.foldl_cons, if_pos hc]
  induction R with
  | nil => rfl
  | cons q R ih =>
    rw [List.foldl_cons, hR q (List.mem_cons_self ..), if_neg Bool.false_ne_true]
    exact ih fun q' hq' => hR q' (List.mem_cons_of_mem _ hq')

theorem rangeSlot_pos (D : Derive) (t : Target) (h : D.WF) (ht : t.WF) {x : Int} (hx : x ∈ D.vals) (a : Option Nat) :
    ∃ k, rangeSlot D t x (tableRange D) a = some k ∧ D.vals[k]? = some x := by
  obtain ⟨P, r, R, htbl, hc, -, hR, hk⟩ := h.run_index ht hx
  exact ⟨_, by rw [htbl, rangeSlot_run D t x hc hR], hk⟩

/-- `assume_init` is justified: both indices are written, and they are the positions of `a` and `b` -/
theorem rangeIdx_spec (D : Derive) (t : Target) (h : D.WF) (ht : t.WF) (a b : Int) (ha : a ∈ D.vals) (hb : b ∈ D.vals) :
    ∃ ia ib, rangeIdx D t a b = .ok (ia, ib) ∧ D.vals[ia]? = some a ∧ D.vals[ib]? = some b := by
  obtain ⟨ia, ea, hva⟩ := rangeSlot_pos D t h ht ha none
  obtain ⟨ib, eb, hvb⟩ := rangeSlot_pos D t h ht hb none
  exact ⟨ia, ib, by rw [rangeIdx, rangeIdxLoop_eq, ea, eb], hva, hvb⟩

theorem spec_range_pos (D : Derive) (h : D.WF) (a b : Int) (ia ib : Nat) (ha : D.vals[ia]? = some a) (hb : D.vals[ib]? = some b) :
    spec.range D.sem a b = absList D.vals ia (ib + 1 - ia) := by
  obtain ⟨hia, rfl⟩ := List.getElem?_eq_some_iff.mp ha
  obtain ⟨hib, rfl⟩ := List.getElem?_eq_some_iff.mp hb
  rw [spec.range, D.sem_discs]
  exact filter_between_sorted D.vals h.sorted ia ib hia hib

theorem spec_range_subset (D : Derive) (a b : Int) : ∀ x ∈ spec.range D.sem a b, x ∈ D.vals :=
  fun _ hx => D.sem_discs ▸ (List.mem_filter.mp hx).1

/-- the slice built by `range` in table mode (empty when the start index is above the end index: no panic) -/
theorem rangeSlice_eq (D : Derive) (ia ib : Nat) (hib : ib < D.vals.length) :
    rangeSlice D ia ib = .ok (.cursor (absList D.vals ia (ib + 1 - ia))) := by
  unfold rangeSlice
  split
  · rw [show ib + 1 - ia = 0 by omega, absList_zero]
  · rw [sliceIncl, if_neg (by omega), if_neg (by unfold tableEnum; omega)]; rfl

/-- in the two modes that go through positions, `range(a, b)` is built from the positions of `a` and `b`,
computed from `MIN` when gapless and found in the run table otherwise -/
theorem rangeInit_pos (D : Derive) (t : Target) (h : D.WF) (ht : t.WF) (a b : Int) (ha : a ∈ D.vals) (hb : b ∈ D.vals) :
    ∃ ia ib, D.vals[ia]? = some a ∧ D.vals[ib]? = some b ∧
      rangeInit D t .nextAndBack a b = .ok (.nb (some a) (some b) (nbLen ia ib)) ∧
      rangeInit D t .table a b = rangeSlice D ia ib := by
  unfold rangeInit
  by_cases hg : D.gapless = true
  · simp only [hg, if_true]
    exact ⟨_, _, pos_gapless D t h ht hg a ha, pos_gapless D t h ht hg b hb, rfl, rfl⟩
  · obtain ⟨ia, ib, hidx, hva, hvb⟩ := rangeIdx_spec D t h ht a b ha hb
    simp only [hg, Bool.false_eq_true, if_false, hidx, Res.bind_ok]
    exact ⟨ia, ib, hva, hvb, rfl, rfl⟩

/-! ### which initial states are cursors: every mode but `next_and_back` -/

theorem cursor_ok (l : List Int) (st : IterState Int) (h : Res.ok (IterState.cursor l) = .ok st) : ∃ l, st = .cursor l :=
  ⟨l, (Res.ok.inj h).symm⟩

theorem cursor_bind {α : Type} (r : Res α) (f : α → Res (IterState Int)) (hf : ∀ x st, f x = .ok st → ∃ l, st = .cursor l)
    (st : IterState Int) (h : r.bind f = .ok st) : ∃ l, st = .cursor l := by
  cases r with
  | ok a => exact hf a st h
  | panic w => cases h
  | ub w => cases h

theorem iterInit_cursor (D : Derive) (m : IterMode) (st : IterState Int) (hi : iterInit D m = .ok st) :
    m = .nextAndBack ∨ ∃ l, st = .cursor l := by
  cases m with
  | nextAndBack => exact .inl rfl
  | range => exact .inr (cursor_bind _ _ cursor_ok st hi)
  | _ => exact .inr (cursor_ok _ st hi)

theorem rangeSlice_cursor (D : Derive) (si ei : Nat) (st : IterState Int) (hs : rangeSlice D si ei = .ok st) : ∃ l, st = .cursor l := by
  unfold rangeSlice at hs
  split at hs
  · exact cursor_ok _ st hs
  · exact cursor_bind _ _ cursor_ok st hs

theorem rangeInit_cursor (D : Derive) (t : Target) (m : IterMode) (a b : Int) (st : IterState Int)
    (hi : rangeInit D t m a b = .ok st) : m = .nextAndBack ∨ ∃ l, st = .cursor l := by
  unfold rangeInit at hi
  split at hi
  · cases m with
    | nextAndBack => exact .inl rfl
    | range => exact .inr (cursor_bind _ _ cursor_ok st hi)
    | table => exact .inr (rangeSlice_cursor D _ _ st hi)
    | _ => exact .inr (cursor_ok _ st hi)
  · cases m with
    | nextAndBack => exact .inl rfl
    | table => exact .inr (cursor_bind _ _ (fun (p : Nat × Nat) => rangeSlice_cursor D p.1 p.2) st hi)
    | _ => exact .inr (cursor_ok _ st hi)

end ET
