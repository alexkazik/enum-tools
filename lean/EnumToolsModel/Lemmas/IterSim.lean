/-
Every generated iterator simulates a list cursor, for every finite history of operations.
`Sim vals st l`: the state `st` of the generated struct represents the remaining items `l`.
-/
import EnumToolsModel.Iter
namespace ET

/-! ### the specification cursor -/

theorem cursor_step_infix {α} (l : List α) (op : Op) : (Cursor.step l op).1 <:+: l := by
  cases op with
  | next => exact (List.tail_suffix l).isInfix
  | nextBack => exact (List.dropLast_prefix l).isInfix
  | nth k => exact (List.drop_suffix _ l).isInfix
  | nthBack k =>
    rw [Cursor.step, List.drop_reverse, List.reverse_reverse]
    exact (List.take_prefix _ l).isInfix
  | len => exact List.infix_rfl
  | sizeHint => exact List.infix_rfl

theorem cursor_step_item_mem {α : Type} (l : List α) (op : Op) (x : α) (h : (Cursor.step l op).2 = .item (some x)) : x ∈ l := by
  cases op with
  | next => exact List.mem_of_mem_head? (Out.item.inj h)
  | nextBack => exact List.mem_of_getLast? (Out.item.inj h)
  | nth k => exact List.mem_of_mem_drop (List.mem_of_mem_head? (Out.item.inj h))
  | nthBack k => exact List.mem_reverse.mp (List.mem_of_mem_drop (List.mem_of_mem_head? (Out.item.inj h)))
  | len => cases h
  | sizeHint => cases h

theorem cursor_run_item_mem {α : Type} (ops : List Op) : ∀ (l : List α) (x : α), .item (some x) ∈ (Cursor.run l ops).2 → x ∈ l := by
  induction ops with
  | nil => intro l x hx; cases hx
  | cons op ops ih =>
    intro l x hx
    rcases List.mem_cons.mp hx with e | e
    · exact cursor_step_item_mem l op x e.symm
    · exact (cursor_step_infix l op).subset (ih _ x e)

/-- a forwarding iterator is the cursor over its list, for any history -/
theorem run_cursor {α : Type} (nf bf : α → Res (Option α)) (ops : List Op) : ∀ (l : List α),
    IterState.run nf bf (.cursor l) ops = .ok (.cursor (Cursor.run l ops).1, (Cursor.run l ops).2) := by
  induction ops with
  | nil => intro l; rfl
  | cons op ops ih =>
    intro l
    simp only [IterState.run, IterState.step, Res.bind_ok, ih, Cursor.run]

/-! ### the `next_and_back` struct -/

/-- the sublist `vals[i .. i+len)` -/
def absList (vals : List Int) (i len : Nat) : List Int := (vals.drop i).take len

theorem absList_length (vals : List Int) (i len : Nat) (h : i + len ≤ vals.length) : (absList vals i len).length = len := by
  rw [absList, List.length_take, List.length_drop, Nat.min_eq_left (Nat.le_sub_of_add_le' h)]

theorem absList_zero (vals : List Int) (i : Nat) : absList vals i 0 = [] := by simp [absList]

theorem absList_cons (vals : List Int) (i len : Nat) (h : i < vals.length) :
    absList vals i (len + 1) = vals[i] :: absList vals (i + 1) len := by
  unfold absList
  rw [List.drop_eq_getElem_cons h, List.take_succ_cons]

theorem absList_snoc (vals : List Int) (i len : Nat) (h : i + len < vals.length) :
    absList vals i (len + 1) = absList vals i len ++ [vals[i + len]] := by
  unfold absList
  rw [List.take_add_one]
  congr 1
  rw [List.getElem?_drop, List.getElem?_eq_getElem h]; rfl

theorem mem_absList (vals : List Int) (i len : Nat) (x : Int) :
    x ∈ absList vals i len ↔ ∃ j, i ≤ j ∧ j < i + len ∧ vals[j]? = some x := by
  simp only [absList, List.mem_iff_getElem?, List.getElem?_take, List.getElem?_drop]
  constructor
  · rintro ⟨k, hk⟩
    split at hk
    · exact ⟨i + k, by omega, by omega, hk⟩
    · cases hk
  · rintro ⟨j, h1, h2, h3⟩
    exact ⟨j - i, by rw [if_pos (by omega), ← h3]; congr 1; omega⟩

section
variable (vals : List Int) (nf bf : Int → Res (Option Int))

/-- what the proofs need to know about the enum's `next` / `next_back` (C05, by position) -/
structure StepFns : Prop where
  nx : ∀ i (hi : i < vals.length), nf vals[i] = .ok vals[i + 1]?
  pv : ∀ i (hi : i < vals.length), bf vals[i] = .ok (if i = 0 then none else vals[i - 1]?)

/-- invariant of the `next_and_back` struct: `len` items remain, starting at position `i`;
the cursors are only constrained while items remain -/
structure NBInv (fwd bwd : Option Int) (len i : Nat) : Prop where
  bound : i + len ≤ vals.length
  cur : len ≠ 0 → fwd = vals[i]? ∧ bwd = vals[i + len - 1]?

/-- the generated struct `st` represents the remaining items `l` -/
inductive Sim : IterState Int → List Int → Prop where
  | cursor (l : List Int) : Sim (.cursor l) l
  | nb (fwd bwd : Option Int) (len i : Nat) (h : NBInv vals fwd bwd len i) : Sim (.nb fwd bwd len) (absList vals i len)

variable {vals nf bf}

/-- the `next_and_back` struct over the whole list, cursors on its two ends -/
theorem Sim.nb_all {a b : Int} (ha : vals.head? = some a) (hb : vals.getLast? = some b) :
    Sim vals (.nb (some a) (some b) vals.length) vals := by
  have h := Sim.nb (vals := vals) (some a) (some b) vals.length 0
    ⟨by omega, fun _ => ⟨by rw [← ha, List.head?_eq_getElem?], by rw [← hb, List.getLast?_eq_getElem?, Nat.zero_add]⟩⟩
  rwa [absList, List.drop_zero, List.take_length] at h

/-- the `next_and_back` struct over `vals[ia ..= ib]` (empty when `ia > ib`) -/
theorem Sim.nb_range {a b : Int} {ia ib : Nat} (ha : vals[ia]? = some a) (hb : vals[ib]? = some b) :
    Sim vals (.nb (some a) (some b) (nbLen ia ib)) (absList vals ia (ib + 1 - ia)) := by
  have hia := (List.getElem?_eq_some_iff.mp ha).1
  have hib := (List.getElem?_eq_some_iff.mp hb).1
  have hlen : nbLen ia ib = ib + 1 - ia := by unfold nbLen; split <;> omega
  rw [hlen]
  refine Sim.nb _ _ _ _ ⟨by omega, fun h0 => ⟨ha.symm, ?_⟩⟩
  rw [← hb, Nat.add_sub_cancel' (Nat.le_of_lt (Nat.lt_of_sub_ne_zero h0))]
  rfl

theorem Sim.length_eq {fwd bwd : Option Int} {len : Nat} {l : List Int} (h : Sim vals (.nb fwd bwd len) l) :
    l.length = len ∧ len ≤ vals.length := by
  obtain _ | ⟨_, _, _, i, hi⟩ := h
  exact ⟨absList_length vals i len hi.bound, Nat.le_trans (Nat.le_add_left ..) hi.bound⟩

theorem NBInv.fwd_eq {fwd bwd : Option Int} {n i : Nat} (h : NBInv vals fwd bwd (n + 1) i) : fwd = vals[i]? :=
  (h.cur (Nat.succ_ne_zero n)).1

theorem NBInv.bwd_eq {fwd bwd : Option Int} {n i : Nat} (h : NBInv vals fwd bwd (n + 1) i) : bwd = vals[i + n]? :=
  (h.cur (Nat.succ_ne_zero n)).2

theorem NBInv.next {fwd bwd : Option Int} {n i : Nat} (h : NBInv vals fwd bwd (n + 1) i) :
    NBInv vals vals[i + 1]? bwd n (i + 1) := by
  refine ⟨by have := h.bound; omega, fun _ => ⟨rfl, ?_⟩⟩
  rw [h.bwd_eq, Nat.add_right_comm]
  rfl

theorem NBInv.nextBack {fwd bwd : Option Int} {n i : Nat} (h : NBInv vals fwd bwd (n + 1) i) :
    NBInv vals fwd (if i + n = 0 then none else vals[i + n - 1]?) n i := by
  refine ⟨by have := h.bound; omega, fun _ => ⟨h.fwd_eq, ?_⟩⟩
  rw [if_neg (by omega)]

/-- `next` on the struct is `head?` / `tail` on the list it represents.  Here and in the next three lemmas the new
state is again a `next_and_back` struct: `nbNth` and `nbNthBack` recurse on its fields. -/
theorem nbNext_sim (hs : StepFns vals nf bf) {fwd bwd : Option Int} {len : Nat} {l : List Int} (h : Sim vals (.nb fwd bwd len) l) :
    ∃ f' b' len', nbNext nf fwd bwd len = .ok (l.head?, .nb f' b' len') ∧ Sim vals (.nb f' b' len') l.tail := by
  obtain _ | ⟨_, _, _, i, h⟩ := h
  cases len with
  | zero =>
    rw [absList_zero]
    exact ⟨fwd, bwd, 0, rfl, absList_zero vals i ▸ Sim.nb _ _ _ i h⟩
  | succ n =>
    have hi : i < vals.length := by have := h.bound; omega
    unfold nbNext
    rw [absList_cons vals i n hi, if_neg (Nat.succ_ne_zero n), h.fwd_eq, List.getElem?_eq_getElem hi]
    simp only [hs.nx i hi, Res.bind_ok]
    exact ⟨_, _, _, rfl, Sim.nb _ _ _ _ h.next⟩

theorem nbNextBack_sim (hs : StepFns vals nf bf) {fwd bwd : Option Int} {len : Nat} {l : List Int} (h : Sim vals (.nb fwd bwd len) l) :
    ∃ f' b' len', nbNextBack bf fwd bwd len = .ok (l.getLast?, .nb f' b' len') ∧ Sim vals (.nb f' b' len') l.dropLast := by
  obtain _ | ⟨_, _, _, i, h⟩ := h
  cases len with
  | zero =>
    rw [absList_zero]
    exact ⟨fwd, bwd, 0, rfl, absList_zero vals i ▸ Sim.nb _ _ _ i h⟩
  | succ n =>
    have hi : i + n < vals.length := by have := h.bound; omega
    unfold nbNextBack
    rw [absList_snoc vals i n hi, List.getLast?_concat, List.dropLast_concat, if_neg (Nat.succ_ne_zero n), h.bwd_eq,
      List.getElem?_eq_getElem hi]
    simp only [hs.pv _ hi, Res.bind_ok]
    exact ⟨_, _, _, rfl, Sim.nb _ _ _ _ h.nextBack⟩

theorem nbNth_sim (hs : StepFns vals nf bf) (k : Nat) : ∀ {fwd bwd : Option Int} {len : Nat} {l : List Int}, Sim vals (.nb fwd bwd len) l →
    ∃ f' b' len', nbNth nf k fwd bwd len = .ok ((l.drop k).head?, .nb f' b' len') ∧ Sim vals (.nb f' b' len') (l.drop (k + 1)) := by
  induction k with
  | zero => intro fwd bwd len l h; rw [List.drop_one]; exact nbNext_sim hs h
  | succ k ih =>
    intro fwd bwd len l h
    obtain ⟨f', b', len', h1, h2⟩ := nbNext_sim hs h
    rw [nbNth, h1, Res.bind_ok]
    cases l with
    | nil => exact ⟨f', b', len', rfl, h2⟩
    | cons x l => exact ih h2

theorem nbNthBack_sim (hs : StepFns vals nf bf) (k : Nat) : ∀ {fwd bwd : Option Int} {len : Nat} {l : List Int}, Sim vals (.nb fwd bwd len) l →
    ∃ f' b' len', nbNthBack bf k fwd bwd len = .ok ((l.reverse.drop k).head?, .nb f' b' len') ∧
      Sim vals (.nb f' b' len') (l.reverse.drop (k + 1)).reverse := by
  induction k with
  | zero =>
    intro fwd bwd len l h
    rw [List.drop_one, List.tail_reverse, List.reverse_reverse, List.drop_zero, List.head?_reverse]
    exact nbNextBack_sim hs h
  | succ k ih =>
    intro fwd bwd len l h
    obtain ⟨f', b', len', h1, h2⟩ := nbNextBack_sim hs h
    rw [nbNthBack, h1, Res.bind_ok]
    cases hl : l.getLast? with
    | none =>
      rw [List.getLast?_eq_none_iff.mp hl] at h2 ⊢
      exact ⟨f', b', len', rfl, h2⟩
    | some x =>
      simpa only [← List.tail_reverse, List.drop_tail] using ih h2

/-- one operation: same output, and the new state represents the new remaining list -/
theorem step_sim (hs : StepFns vals nf bf) (st : IterState Int) (l : List Int) (h : Sim vals st l) (op : Op) :
    ∃ st', IterState.step nf bf st op = .ok (st', (Cursor.step l op).2) ∧ Sim vals st' (Cursor.step l op).1 := by
  cases st with
  | cursor l' => cases h; exact ⟨_, rfl, Sim.cursor _⟩
  | nb fwd bwd len =>
    cases op with
    | next =>
      obtain ⟨f', b', len', h1, h2⟩ := nbNext_sim hs h
      exact ⟨_, by rw [IterState.step, h1]; rfl, h2⟩
    | nextBack =>
      obtain ⟨f', b', len', h1, h2⟩ := nbNextBack_sim hs h
      exact ⟨_, by rw [IterState.step, h1]; rfl, h2⟩
    | nth k =>
      obtain ⟨f', b', len', h1, h2⟩ := nbNth_sim hs k h
      exact ⟨_, by rw [IterState.step, h1]; rfl, h2⟩
    | nthBack k =>
      obtain ⟨f', b', len', h1, h2⟩ := nbNthBack_sim hs k h
      exact ⟨_, by rw [IterState.step, h1]; rfl, h2⟩
    | len | sizeHint => exact ⟨_, by rw [IterState.step, Cursor.step, h.length_eq.1], h⟩

theorem run_sim (hs : StepFns vals nf bf) (ops : List Op) : ∀ (st : IterState Int) (l : List Int), Sim vals st l →
    ∃ st', IterState.run nf bf st ops = .ok (st', (Cursor.run l ops).2) ∧ Sim vals st' (Cursor.run l ops).1 := by
  induction ops with
  | nil => intro st l h; exact ⟨st, rfl, h⟩
  | cons op ops ih =>
    intro st l h
    obtain ⟨st1, h1, h2⟩ := step_sim hs st l h op
    obtain ⟨st2, h3, h4⟩ := ih st1 _ h2
    exact ⟨st2, by simp only [IterState.run, h1, Res.bind_ok, h3, Cursor.run], by simpa only [Cursor.run] using h4⟩

theorem nbDrain_eq (hs : StepFns vals nf bf) {fwd bwd : Option Int} {len i : Nat} (h : NBInv vals fwd bwd len i) :
    nbDrain nf len fwd = .ok (absList vals i len) := by
  induction len generalizing i fwd with
  | zero => rw [absList_zero]; rfl
  | succ n ih =>
    have hi : i < vals.length := by have := h.bound; omega
    rw [h.fwd_eq, List.getElem?_eq_getElem hi, nbDrain, hs.nx i hi, Res.bind_ok, ih h.next, Res.bind_ok,
      absList_cons vals i n hi]

theorem nbDrainBack_eq (hs : StepFns vals nf bf) {fwd bwd : Option Int} {len i : Nat} (h : NBInv vals fwd bwd len i) :
    nbDrainBack bf len bwd = .ok (absList vals i len).reverse := by
  induction len generalizing bwd with
  | zero => rw [absList_zero]; rfl
  | succ n ih =>
    have hi : i + n < vals.length := by have := h.bound; omega
    rw [h.bwd_eq, List.getElem?_eq_getElem hi, nbDrainBack, hs.pv _ hi, Res.bind_ok, ih h.nextBack, Res.bind_ok,
      absList_snoc vals i n hi, List.reverse_append]
    rfl

theorem finish_sim (hs : StepFns vals nf bf) (st : IterState Int) (l : List Int) (h : Sim vals st l) (f : Fin) :
    IterState.finish nf bf st f = .ok (Cursor.finish l f) := by
  cases h with
  | cursor l => rfl
  | nb fwd bwd len i h =>
    cases f <;> simp [IterState.finish, Cursor.finish, nbDrain_eq hs h, nbDrainBack_eq hs h]

end
end ET
