/-
The translated templates (`Generated/Templates.lean`, regenerated from /repo/src on every run)
compute the same function as the schema model of `Gen.lean` / `Iter.lean`, for every `Derive`
that satisfies `WF` and every argument the Rust type system admits.  Every theorem about the
schema model (C01–C09, C18) therefore is a theorem about what the source says now.
-/
import EnumToolsModel.TRun
import EnumToolsModel.Lemmas.Range
import EnumToolsModel.Lemmas.Scan
namespace ET.T
open ET ET.Rust

/-! ### the vocabulary of `Rust.lean` against the idioms of `Gen.lean` -/

@[simp] theorem bind_ok_right {α} (r : Res α) : (r.bind fun x => Res.ok x) = r := by
  cases r <;> rfl

theorem cast_of_inRange {D : Derive} (h : D.WF) {x : Int} (hx : D.repr.InRange x) : cast D.repr x = x :=
  Prim.wrap_of_inRange _ h.bits_pos x hx

theorem cast_val {D : Derive} (h : D.WF) {v : Int} (hv : v ∈ D.vals) : cast D.repr v = v := h.wrap_val hv

theorem cast_minC {D : Derive} (h : D.WF) : cast D.repr (minC D) = minC D := cast_val h h.minKey_mem
theorem cast_maxC {D : Derive} (h : D.WF) : cast D.repr (maxC D) = maxC D := cast_val h h.maxKey_mem

/-- The translator orders the operands of `==` by their text, so renaming a variable in the source can turn an equation
round; each proof fixes one order and reaches it by this lemma or by `eq_comm (a := _)`. -/
theorem decide_eq_comm {α} [DecidableEq α] (a b : α) : decide (a = b) = decide (b = a) :=
  decide_eq_decide.mpr eq_comm

/-- `lo <= v && v <= hi` as the translator writes it: `a <= b` is `!(b < a)` -/
theorem between_iff (lo hi v : Int) : (!decide (v < lo) && !decide (hi < v)) = true ↔ v ≥ lo ∧ v ≤ hi := by
  simp [Int.not_lt]

/-- `v + 1` under overflow checks, with what follows it: `v` is a value of the type, so only the upper limit can be passed -/
theorem checked_add_one {α} (p : Prim) (v : Int) (hv : p.InRange v) (f : Int → Res α) :
    (add p v 1).bind f = if v + 1 > p.hi then .panic .arithOverflow else f (v + 1) := by
  have : p.InRange (v + 1) ↔ ¬ v + 1 > p.hi := by unfold Prim.InRange at *; omega
  simp only [add, this, ite_not]
  split <;> rfl

theorem checked_sub_one {α} (p : Prim) (v : Int) (hv : p.InRange v) (f : Int → Res α) :
    (sub p v 1).bind f = if v - 1 < p.lo then .panic .arithOverflow else f (v - 1) := by
  have : p.InRange (v - 1) ↔ ¬ v - 1 < p.lo := by unfold Prim.InRange at *; omega
  simp only [sub, this, ite_not]
  split <;> rfl

/-- one round of `for r in l { if c(r) { return Some(f(r)) } }` -/
theorem forRet_cons_if {α β} (c : α → Bool) (f : α → Res β) (rest : Unit → Res (Option β)) (x : α) (xs : List α) :
    forRet (x :: xs) (fun r => if c r then (f r).bind (fun e => .ok (some (some e))) else .ok none) rest
      = if c x then (f x).bind (fun e => .ok (some e))
        else forRet xs (fun r => if c r then (f r).bind (fun e => .ok (some (some e))) else .ok none) rest := by
  rw [forRet]
  cases c x
  · rfl
  · cases f x <;> rfl

theorem forRet_scan {α β} (l : List α) (c : α → Bool) (f : α → Res β) (dflt : Res (Option β)) :
    forRet l (fun r => if c r then (f r).bind (fun e => .ok (some (some e))) else .ok none) (fun _ => dflt)
      = (match l.find? c with
         | some r => (f r).bind (fun e => .ok (some e))
         | none => dflt) := by
  induction l with
  | nil => rfl
  | cons x xs ih =>
    rw [forRet_cons_if, ih, List.find?_cons]
    cases c x <;> rfl

theorem matchFirst_map {α κ β} [DecidableEq κ] (l : List α) (key : α → κ) (g : α → β) (x : κ) :
    matchFirst (l.map fun a => (key a, g a)) x = (l.find? (fun a => decide (key a = x))).map g := by
  rw [matchFirst, List.find?_map, Option.map_map]
  rfl

/-- `position(p).map(f)` is the loop that returns at the first hit -/
theorem optMapM_positionFrom {α β} (p : α → Bool) (f : Int → Res β) (l : List α) (k : Nat) :
    optMapM (positionFrom p k l) f =
      forRet (enumFrom k l) (fun x => if p x.2 then (f x.1).bind (fun e => .ok (some (some e))) else .ok none) (fun _ => .ok none) := by
  induction l generalizing k with
  | nil => rfl
  | cons x xs ih =>
    rw [enumFrom, forRet_cons_if, ← ih, positionFrom]
    cases p x <;> rfl

/-- `find_map(|x| if p x { Some(g x) } else { None })` is the loop that returns at the first hit -/
theorem findSome_forRet {α β} (p : α → Bool) (g : α → β) (l : List α) :
    (Res.ok (List.findSome? (fun x => if p x then some (g x) else none) l) : Res (Option β)) =
      forRet l (fun x => if p x then .ok (some (some (g x))) else .ok none) (fun _ => .ok none) := by
  induction l with
  | nil => rfl
  | cons x xs ih =>
    rw [List.findSome?_cons, forRet]
    cases p x
    · exact ih
    · rfl

theorem optAndThenM_eq {α} (o : Option α) (f : α → Res (Option α)) :
    optAndThenM o (fun x => (f x).bind fun y => Res.ok y) = (match o with | none => (.ok none : Res (Option α)) | some x => f x) := by
  cases o <;> simp [optAndThenM]

variable (D : Derive) (tg : Target) (md : Modes)

/-- `x as repr_unsigned as usize` -/
theorem idx_cast (x : Int) :
    Rust.cast (ITy.usize.prim D tg) (Rust.cast (ITy.urepr.prim D tg) x) = ((toIndex D tg x : Nat) : Int) := by
  simp only [Rust.cast, ITy.prim, Prim.wrap, toIndex, asUnsigned, Bool.false_eq_true, if_false]
  rw [Int.toNat_of_nonneg]
  exact Int.emod_nonneg _ (Int.ne_of_gt (two_pow_pos _))

theorem index_cast_eq (tbl : List Name) (x : Int) :
    Rust.index tbl (cast (ITy.usize.prim D tg) (cast (ITy.urepr.prim D tg) x)) = ET.index tbl (toIndex D tg x) := by
  simp only [Rust.index, idx_cast, Int.toNat_natCast]

theorem mapM_transmute (l : List Int) :
    mapM (fun x => transmute D x) l = mapTransmute D l := by
  induction l with
  | nil => rfl
  | cons x xs ih =>
    simp only [mapM, mapTransmute, ih]

/-! ### into / try_from -/

theorem intoFn_eq (h : D.WF) (v : Int) (hv : v ∈ D.vals) : T.intoFn D tg md v = .ok (ET.intoFn D v) := by
  simp [T.intoFn, ET.intoFn, cast_val h hv]

theorem intoTrait_eq (h : D.WF) (v : Int) (hv : v ∈ D.vals) : T.intoTrait D tg md v = .ok (ET.intoTrait D v) := by
  simp [T.intoTrait, ET.intoTrait, cast_val h hv]

theorem tryFromFn_gapless_eq (h : D.WF) (v : Int) (hv : D.repr.InRange v) :
    T.tryFromFn_gapless D tg md v = tryFromGapless D v := by
  simp only [T.tryFromFn_gapless, tryFromGapless, cast_of_inRange h hv, cast_minC h, cast_maxC h, between_iff]

theorem tryFromTrait_gapless_eq (h : D.WF) (v : Int) (hv : D.repr.InRange v) :
    T.tryFromTrait_gapless D tg md v = tryFromTraitGapless D v := by
  simp only [T.tryFromTrait_gapless, tryFromTraitGapless, cast_of_inRange h hv, cast_minC h, cast_maxC h, between_iff]

theorem forRet_tryFromScan (v : Int) (l : List RangeEntry) :
    forRet l (fun r => if RangeEntry.contains r v then (transmute D v).bind (fun e => .ok (some (some e))) else .ok none)
      (fun _ => .ok none) = tryFromScan D v l := by
  induction l with
  | nil => rfl
  | cons x xs ih =>
    rw [forRet_cons_if, ih]
    rfl

theorem tryFromFn_holes_eq (h : D.WF) (v : Int) (hv : D.repr.InRange v) :
    T.tryFromFn_holes D tg md v = tryFromHoles D v := by
  simp only [T.tryFromFn_holes, tryFromHoles, cast_of_inRange h hv, cast_minC h, cast_maxC h, between_iff, forRet_tryFromScan]

theorem tryFromTrait_holes_eq (h : D.WF) (v : Int) (hv : D.repr.InRange v) :
    T.tryFromTrait_holes D tg md v = tryFromTraitHoles D v := by
  simp only [T.tryFromTrait_holes, tryFromTraitHoles, tryFromTraitScan_eq, cast_of_inRange h hv, cast_minC h, cast_maxC h,
    between_iff, forRet_tryFromScan]

theorem tryFromFn_eq (h : D.WF) (v : Int) (hv : D.repr.InRange v) : T.tryFromFn D tg md v = ET.tryFromFn D v := by
  unfold T.tryFromFn ET.tryFromFn
  cases hg : D.gapless <;> simp [tryFromFn_gapless_eq D tg md h v hv, tryFromFn_holes_eq D tg md h v hv]

theorem tryFromTrait_eq (h : D.WF) (v : Int) (hv : D.repr.InRange v) : T.tryFromTrait D tg md v = ET.tryFromTrait D v := by
  unfold T.tryFromTrait ET.tryFromTrait
  cases hg : D.gapless <;> simp [tryFromTrait_gapless_eq D tg md h v hv, tryFromTrait_holes_eq D tg md h v hv]

/-! ### next / next_back -/

theorem next_gapless_eq (h : D.WF) (v : Int) (hv : v ∈ D.vals) : T.next_gapless D tg md v = nextGapless D v := by
  simp only [T.next_gapless, nextGapless, cast_val h hv, cast_maxC h, checked_add_one _ v (h.inRange v hv),
    decide_eq_true_eq, eq_comm (a := maxC D)]

theorem nextBack_gapless_eq (h : D.WF) (v : Int) (hv : v ∈ D.vals) : T.nextBack_gapless D tg md v = nextBackGapless D v := by
  simp only [T.nextBack_gapless, nextBackGapless, cast_val h hv, cast_minC h, checked_sub_one _ v (h.inRange v hv),
    decide_eq_true_eq, eq_comm (a := minC D)]

theorem next_holes_eq (h : D.WF) (v : Int) (hv : v ∈ D.vals) : T.next_holes D tg md v = nextHoles D v := by
  unfold T.next_holes nextHoles
  simp only [cast_val h hv, bind_ok_right]
  generalize tableRange D = l
  -- along the arms of `nextLoop`: the translated loop body takes the same branch in each
  fun_induction nextLoop D v l with
  | case1 => rfl
  | case2 r rest hc c' hc2 =>
    simp only [loopNext, hc, if_true, wrappingAdd, c', hc2]
    cases transmute D (D.repr.wrap (v + 1)) <;> rfl
  | case3 r hc c' hc2 => simp only [loopNext, hc, if_true, wrappingAdd, c', hc2]; rfl
  | case4 r hc c' hc2 r2 rest =>
    simp only [loopNext, hc, if_true, wrappingAdd, c', hc2, List.head?, optMapM]
    cases transmute D r2.start <;> rfl
  | case5 r rest hc ih => simp only [loopNext, hc]; exact ih

theorem next_eq (h : D.WF) (v : Int) (hv : v ∈ D.vals) : T.next D tg md v = nextFn D v := by
  unfold T.next nextFn
  cases hg : D.gapless <;> simp [next_gapless_eq D tg md h v hv, next_holes_eq D tg md h v hv]

theorem nextBack_holes_eq (h : D.WF) (v : Int) (hv : v ∈ D.vals) : T.nextBack_holes D tg md v = nextBackHoles D v := by
  unfold T.nextBack_holes nextBackHoles loopNextBack
  simp only [cast_val h hv, bind_ok_right]
  generalize (tableRange D).reverse = l
  -- arm by arm as in `next_holes_eq`
  fun_induction nextBackLoop D v l with
  | case1 => rfl
  | case2 r rest hc c' hc2 =>
    simp only [loopNextBackRev, hc, if_true, wrappingSub, c', hc2]
    cases transmute D (D.repr.wrap (v - 1)) <;> rfl
  | case3 r hc c' hc2 => simp only [loopNextBackRev, hc, if_true, wrappingSub, c', hc2]; rfl
  | case4 r hc c' hc2 r2 rest =>
    simp only [loopNextBackRev, hc, if_true, wrappingSub, c', hc2, List.getLast?_reverse, List.head?, optMapM]
    cases transmute D r2.stop <;> rfl
  | case5 r rest hc ih => simp only [loopNextBackRev, hc]; exact ih

theorem nextBack_eq (h : D.WF) (v : Int) (hv : v ∈ D.vals) : T.nextBack D tg md v = nextBackFn D v := by
  unfold T.nextBack nextBackFn
  cases hg : D.gapless <;> simp [nextBack_gapless_eq D tg md h v hv, nextBack_holes_eq D tg md h v hv]

/-! ### as_str, Display, Debug, IntoStr -/

theorem asStr_match_eq (v : Int) : T.asStr_match D tg md v = asStrMatch D v := by
  simp only [T.asStr_match, asStrMatch, matchEnum, matchFirst_map, bind_ok_right]
  cases D.values.find? (fun a => decide (a.1 = v)) <;> rfl

theorem asStr_table_gapless_eq (h : D.WF) (v : Int) (hv : v ∈ D.vals) :
    T.asStr_table_gapless D tg md v = asStrTableGapless D tg v := by
  simp only [T.asStr_table_gapless, asStrTableGapless, cast_val h hv, cast_minC h, wrappingSub, index_cast_eq, bind_ok_right]

theorem asStr_table_holes_eq (h : D.WF) (v : Int) (hv : v ∈ D.vals) :
    T.asStr_table_holes D tg md v = asStrTableHoles D tg v := by
  simp only [T.asStr_table_holes, asStrTableHoles, cast_val h hv, wrappingSub, index_cast_eq, bind_ok_right]
  cases (tableRange D).find? (fun t => t.contains v) <;> rfl

theorem asStr_eq (h : D.WF) (hm : md.asStr ≠ .auto) (v : Int) (hv : v ∈ D.vals) :
    T.asStr D tg md v = ET.asStr D tg md.asStr v := by
  unfold T.asStr ET.asStr
  cases hmd : md.asStr
  · exact absurd hmd hm
  · simp [asStr_match_eq]
  · cases hg : D.gapless <;> simp [asStr_table_gapless_eq D tg md h v hv, asStr_table_holes_eq D tg md h v hv]

theorem display_eq (h : D.WF) (hm : md.asStr ≠ .auto) (v : Int) (hv : v ∈ D.vals) :
    T.display D tg md v = ET.asStr D tg md.asStr v := by
  simp [T.display, asStr_eq D tg md h hm v hv]

theorem debug_eq (h : D.WF) (hm : md.asStr ≠ .auto) (v : Int) (hv : v ∈ D.vals) :
    T.debug D tg md v = ET.asStr D tg md.asStr v := by
  simp [T.debug, asStr_eq D tg md h hm v hv]

theorem intoStr_eq (h : D.WF) (hm : md.asStr ≠ .auto) (v : Int) (hv : v ∈ D.vals) :
    T.intoStr D tg md v = ET.asStr D tg md.asStr v := by
  simp [T.intoStr, asStr_eq D tg md h hm v hv]

/-! ### from_str / FromStr -/

theorem fromStr_match_aux (s : Name) :
    Res.ok ((matchFirst (D.values.map fun x => (x.2.2, some x.1)) s).getD none) = fromStrMatch D s := by
  simp only [fromStrMatch, matchFirst_map]
  cases D.values.find? (fun a => decide (a.2.2 = s)) <;> rfl

theorem forRet_fromStrGapless (s : Name) (l : List Name) (k : Nat) :
    forRet (enumFrom k l) (fun x : Int × Name =>
        if decide (x.2 = s) then
          (transmute D (wrappingAdd D.repr (Rust.cast D.repr x.1) (minC D))).bind fun e1 => .ok (some (some e1))
        else .ok none)
      (fun _ => .ok none) = fromStrTableGaplessLoop D s k l := by
  induction l generalizing k with
  | nil => rfl
  | cons n rest ih =>
    rw [enumFrom, forRet_cons_if, ih, fromStrTableGaplessLoop]
    simp only [decide_eq_true_eq, eq_comm (a := s), wrappingAdd, Rust.cast]

theorem forRet_fromStrHoles (s : Name) (l : List (Int × Name)) :
    forRet l (fun x : Int × Name => if decide (x.2 = s) then .ok (some (some x.1)) else .ok none) (fun _ => .ok none)
      = fromStrTableHolesLoop s l := by
  rw [fromStrTableHolesLoop_eq]
  refine (forRet_scan l (fun x => decide (x.2 = s)) (fun x => .ok x.1) (.ok none)).trans ?_
  cases l.find? fun x => decide (x.2 = s) <;> rfl

/- The source may write a table lookup as a `for` loop with `return` or through an iterator adaptor (`position().map()` for
the gapless table, `find_map()` for the one with holes), and the translator renders each differently.  Each `simp only` set below
carries the rules for both forms of its lookup, so whichever the source uses now is rewritten to the schema model's loop; the
rules of the other form then find nothing to rewrite, which the unused-argument linter reports. -/

theorem fromStrFn_table_gapless_eq (h : D.WF) (s : Name) : T.fromStrFn_table_gapless D tg md s = fromStrTableGapless D s := by
  simp only [T.fromStrFn_table_gapless, fromStrTableGapless, enumerate, position, bind_ok_right, optMapM_positionFrom,
    decide_eq_comm s, cast_minC h, forRet_fromStrGapless]

theorem fromStrTrait_table_gapless_eq (h : D.WF) (s : Name) :
    T.fromStrTrait_table_gapless D tg md s = fromStrTableGapless D s := by
  simp only [T.fromStrTrait_table_gapless, fromStrTableGapless, enumerate, position, bind_ok_right, optMapM_positionFrom,
    decide_eq_comm s, cast_minC h, forRet_fromStrGapless]

theorem fromStrFn_table_holes_eq (s : Name) : T.fromStrFn_table_holes D tg md s = fromStrTableHoles D s := by
  simp only [T.fromStrFn_table_holes, fromStrTableHoles, findSome_forRet, decide_eq_comm s, forRet_fromStrHoles]

theorem fromStrTrait_table_holes_eq (s : Name) : T.fromStrTrait_table_holes D tg md s = fromStrTableHoles D s := by
  simp only [T.fromStrTrait_table_holes, fromStrTableHoles, findSome_forRet, decide_eq_comm s, forRet_fromStrHoles]

theorem fromStrFn_eq (h : D.WF) (hm : md.fromStrFn ≠ .auto) (s : Name) :
    T.fromStrFn D tg md s = ET.fromStr D md.fromStrFn s := by
  unfold T.fromStrFn ET.fromStr
  cases hmd : md.fromStrFn
  · exact absurd hmd hm
  · simp [T.fromStrFn_match, fromStr_match_aux]
  · cases hg : D.gapless <;> simp [fromStrFn_table_gapless_eq D tg md h, fromStrFn_table_holes_eq]

theorem fromStrTrait_eq (h : D.WF) (hm : md.fromStrTrait ≠ .auto) (s : Name) :
    T.fromStrTrait D tg md s = ET.fromStr D md.fromStrTrait s := by
  unfold T.fromStrTrait ET.fromStr
  cases hmd : md.fromStrTrait
  · exact absurd hmd hm
  · simp [T.fromStrTrait_match, fromStr_match_aux]
  · cases hg : D.gapless <;> simp [fromStrTrait_table_gapless_eq D tg md h, fromStrTrait_table_holes_eq]

/-! ### iter(), names() -/

theorem iter_eq (hm : md.iter ≠ .auto) : T.iter D tg md = iterInit D md.iter := by
  unfold T.iter iterInit
  cases hmd : md.iter
  · exact absurd hmd hm
  · simp [T.iter_range, mapM_transmute]
  · simp [T.iter_nextAndBack]
  · simp [T.iter_table]
  · simp [T.iter_tableInline]

theorem names_eq : T.names D tg md = .ok (namesInit D) := rfl

/-! ### the `next_and_back` iterator -/

def usizeMax (tg : Target) : Int := (2 : Int) ^ tg.ptrBits - 1

theorem usize_inRange (x : Int) : (ITy.usize.prim D tg).InRange x ↔ 0 ≤ x ∧ x ≤ usizeMax tg := by
  simp [ITy.prim, Prim.InRange, Prim.lo, Prim.hi, usizeMax]

theorem usize_add (a b : Int) (h0 : 0 ≤ a + b) (h1 : a + b ≤ usizeMax tg) : add (ITy.usize.prim D tg) a b = .ok (a + b) :=
  if_pos ((usize_inRange D tg _).mpr ⟨h0, h1⟩)

theorem usize_sub (a b : Int) (h0 : 0 ≤ a - b) (h1 : a - b ≤ usizeMax tg) : sub (ITy.usize.prim D tg) a b = .ok (a - b) :=
  if_pos ((usize_inRange D tg _).mpr ⟨h0, h1⟩)

/-- what `next` and `next_back` of `next_and_back` share; `r` is the end that moves -/
theorem nb_step {β : Type} (n : Nat) (hn : (n : Int) ≤ usizeMax tg + 1) (r : Res (Option Int)) (z : β)
    (k : Option Int → Nat → β) :
    (if (n : Int) = 0 then Res.ok z
     else r.bind fun o => (sub (ITy.usize.prim D tg) n 1).bind fun x => Res.ok (k o (Int.toNat x)))
      = if n = 0 then .ok z else r.bind fun o => .ok (k o (n - 1)) := by
  by_cases h0 : n = 0
  · simp [h0]
  · rw [usize_sub D tg n 1 (by omega) (by omega)]
    simp only [h0, Int.natCast_eq_zero, if_false, Res.bind_ok]
    rw [show Int.toNat ((n : Int) - 1) = n - 1 by omega]

theorem iter_next_eq (hm : md.iter = .nextAndBack) (fwd bwd : Option Int) (n : Nat) (hn : (n : Int) ≤ usizeMax tg + 1) :
    T.iter_Iterator_next D tg md fwd bwd n = nbNext (T.next D tg md) fwd bwd n := by
  unfold T.iter_Iterator_next T.iter_Iterator_next_nextAndBack nbNext
  simp only [hm, beq_self_eq_true, if_true, optAndThenM_eq, decide_eq_true_eq, eq_comm (a := (0 : Int)), Int.toNat_natCast]
  exact nb_step D tg n hn _ _ fun o m => (fwd, IterState.nb o bwd m)

theorem iter_next_back_eq (hm : md.iter = .nextAndBack) (fwd bwd : Option Int) (n : Nat) (hn : (n : Int) ≤ usizeMax tg + 1) :
    T.iter_DoubleEnded_next_back D tg md fwd bwd n = nbNextBack (T.nextBack D tg md) fwd bwd n := by
  unfold T.iter_DoubleEnded_next_back T.iter_DoubleEnded_next_back_nextAndBack nbNextBack
  simp only [hm, beq_self_eq_true, if_true, optAndThenM_eq, decide_eq_true_eq, eq_comm (a := (0 : Int)), Int.toNat_natCast]
  exact nb_step D tg n hn _ _ fun o m => (bwd, IterState.nb fwd o m)

theorem iter_len_eq (hm : md.iter = .nextAndBack) (fwd bwd : Option Int) (n : Nat) :
    T.iter_ExactSize_len D tg md fwd bwd n = .ok (n : Int) := by
  simp [T.iter_ExactSize_len, T.iter_ExactSize_len_nextAndBack, hm]

theorem iter_size_hint_eq (hm : md.iter = .nextAndBack) (fwd bwd : Option Int) (n : Nat) :
    T.iter_Iterator_size_hint D tg md fwd bwd n = .ok ((n : Int), some (n : Int)) := by
  simp [T.iter_Iterator_size_hint, T.iter_Iterator_size_hint_nextAndBack, hm]

/-! ### range(a, b) -/

theorem usizeMax_ge (ht : tg.WF) : 65535 ≤ usizeMax tg := by
  have := ht.two_pow_le
  unfold usizeMax; omega

theorem nb_len_eq (si ei : Nat) (he : (ei : Int) < usizeMax tg) (fwd bwd : Option Int) :
    (if decide ((si : Int) > (ei : Int)) then Res.ok (IterState.nb fwd bwd (Int.toNat 0))
     else (sub (ITy.usize.prim D tg) (ei : Int) (si : Int)).bind fun x1 =>
       (add (ITy.usize.prim D tg) x1 1).bind fun x2 => Res.ok (IterState.nb fwd bwd (Int.toNat x2)))
      = Res.ok (IterState.nb fwd bwd (nbLen si ei)) := by
  simp only [nbLen, gt_iff_lt, Int.ofNat_lt, decide_eq_true_eq]
  split
  · rfl
  · rw [usize_sub D tg ei si (by omega) (by omega), Res.bind_ok, usize_add D tg _ 1 (by omega) (by omega), Res.bind_ok]
    rw [show Int.toNat ((ei : Int) - (si : Int) + 1) = ei - si + 1 by omega]

theorem sliceExcl_succ {α} (tbl : List α) (s e : Nat) : sliceExcl tbl (s : Int) ((e : Int) + 1) = sliceIncl tbl s e := by
  have h1 : ((s : Int) > (e : Int) + 1) ↔ s > e + 1 := by omega
  have h2 : ((e : Int) + 1 > (tbl.length : Int)) ↔ e + 1 > tbl.length := by omega
  have h3 : Int.toNat ((e : Int) + 1 - (s : Int)) = e + 1 - s := by omega
  simp only [sliceExcl, sliceIncl, h1, h2, h3, Int.toNat_natCast]

theorem slice_eq (si ei : Nat) (he : (ei : Int) < usizeMax tg) :
    (if decide ((si : Int) > (ei : Int)) then
        (sliceExcl (tableEnum D) 0 0).bind fun sl => Res.ok (IterState.cursor sl)
     else (add (ITy.usize.prim D tg) (ei : Int) 1).bind fun x =>
       (sliceExcl (tableEnum D) (si : Int) x).bind fun sl => Res.ok (IterState.cursor sl))
      = rangeSlice D si ei := by
  simp only [rangeSlice, gt_iff_lt, Int.ofNat_lt, decide_eq_true_eq]
  split
  · have hl0 : ¬ (((tableEnum D).length : Int) < 0) := by omega
    simp [sliceExcl, hl0]
  · rw [usize_add D tg ei 1 (by omega) (by omega), Res.bind_ok, sliceExcl_succ]

theorem range_gapless_range_eq (h : D.WF) (a b : Int) (ha : a ∈ D.vals) (hb : b ∈ D.vals) :
    T.range_gapless_range D tg md a b = (mapTransmute D (interval a b)).bind fun l => .ok (.cursor l) := by
  simp [T.range_gapless_range, cast_val h ha, cast_val h hb, mapM_transmute]

/-- a position in the value list is below `usize::MAX`, so `+ 1` on it does not overflow: there are fewer than 65535
variants (`count_lt`) and `usize` has at least 16 bits -/
theorem idx_lt (h : D.WF) (ht : tg.WF) (v : Int) (k : Nat) (hk : D.vals[k]? = some v) : (k : Int) < usizeMax tg := by
  have := usizeMax_ge tg ht
  have := Nat.lt_trans (D.vals_length ▸ (List.getElem?_eq_some_iff.mp hk).1) h.count_lt
  omega

theorem idx_gapless_lt (h : D.WF) (ht : tg.WF) (hg : D.gapless = true) (b : Int) (hb : b ∈ D.vals) :
    (toIndex D tg (D.repr.wrap (b - minC D)) : Int) < usizeMax tg :=
  idx_lt D tg h ht b _ (pos_gapless D tg h ht hg b hb)

theorem range_gapless_nb_eq (h : D.WF) (ht : tg.WF) (hg : D.gapless = true) (a b : Int) (ha : a ∈ D.vals) (hb : b ∈ D.vals) :
    T.range_gapless_nextAndBack D tg md a b =
      .ok (.nb (some a) (some b) (nbLen (toIndex D tg (D.repr.wrap (a - minC D))) (toIndex D tg (D.repr.wrap (b - minC D))))) := by
  simp only [T.range_gapless_nextAndBack, cast_val h ha, cast_val h hb, cast_minC h, wrappingSub, idx_cast]
  exact nb_len_eq D tg _ _ (idx_gapless_lt D tg h ht hg b hb) _ _

theorem range_gapless_table_eq (h : D.WF) (ht : tg.WF) (hg : D.gapless = true) (a b : Int) (ha : a ∈ D.vals) (hb : b ∈ D.vals) :
    T.range_gapless_table D tg md a b =
      rangeSlice D (toIndex D tg (D.repr.wrap (a - minC D))) (toIndex D tg (D.repr.wrap (b - minC D))) := by
  simp only [T.range_gapless_table, cast_val h ha, cast_val h hb, cast_minC h, wrappingSub, idx_cast]
  exact slice_eq D tg _ _ (idx_gapless_lt D tg h ht hg b hb)

/-- the index a run-table entry gives a value, as the `usize` the template computes -/
def idxOf (x : Int) (r : RangeEntry) : Int := ((toIndex D tg (D.repr.wrap (x - r.ofs)) : Nat) : Int)

theorem forFold_rangeIdx (s e : Int)
    (body : Option Int × Option Int → RangeEntry → Res (Option Int × Option Int))
    (hbody : ∀ a b r, body (a, b) r =
      .ok (if r.contains s then some (idxOf D tg s r) else a, if r.contains e then some (idxOf D tg e r) else b))
    (l : List RangeEntry) (si ei : Option Nat) :
    forFold l (si.map Int.ofNat, ei.map Int.ofNat) body =
      .ok (((rangeIdxLoop D tg s e l (si, ei)).1).map Int.ofNat, ((rangeIdxLoop D tg s e l (si, ei)).2).map Int.ofNat) := by
  induction l generalizing si ei with
  | nil => rfl
  | cons r rest ih =>
    -- one round on either side, then the induction hypothesis right to left: the `usize` slots are the images of the `Nat` slots
    simp only [forFold, hbody, Res.bind_ok, rangeIdxLoop, ← ih, apply_ite (Option.map Int.ofNat), Option.map_some, idxOf]
    rfl

/-- The `for r in __RANGES` loop of the translated `range` leaves the two indices of `rangeIdx`.  The loop occurs in two
translated functions, so its body is a variable, known only through what one round does to the two slots (`hbody`);
each caller reads that off its own text. -/
theorem forFold_holes (a b : Int) (ia ib : Nat) (hri : rangeIdx D tg a b = .ok (ia, ib))
    (body : Option Int × Option Int → RangeEntry → Res (Option Int × Option Int))
    (hbody : ∀ x y r, body (x, y) r =
      .ok (if r.contains a then some (idxOf D tg a r) else x, if r.contains b then some (idxOf D tg b r) else y)) :
    forFold (tableRange D) (none, none) body = .ok (some (ia : Int), some (ib : Int)) := by
  have hl : rangeIdxLoop D tg a b (tableRange D) (none, none) = (some ia, some ib) := by
    unfold rangeIdx at hri
    split at hri
    · next heq => cases hri; exact heq
    · cases hri
  exact (forFold_rangeIdx D tg a b body hbody (tableRange D) none none).trans (by rw [hl]; rfl)

theorem range_holes_nb_eq (h : D.WF) (ht : tg.WF) (a b : Int) (ha : a ∈ D.vals) (hb : b ∈ D.vals) :
    T.range_holes_nextAndBack D tg md a b =
      (rangeIdx D tg a b).bind fun (si, ei) => .ok (.nb (some a) (some b) (nbLen si ei)) := by
  obtain ⟨ia, ib, hri, -, hvb⟩ := rangeIdx_spec D tg h ht a b ha hb
  simp only [T.range_holes_nextAndBack, cast_val h ha, cast_val h hb, hri]
  rw [forFold_holes D tg a b ia ib hri]
  · simp only [Res.bind_ok, assumeInit]
    exact nb_len_eq D tg ia ib (idx_lt D tg h ht b ib hvb) _ _
  · intro x y r
    by_cases h1 : r.contains a = true <;> by_cases h2 : r.contains b = true <;> simp [h1, h2, idxOf, idx_cast, wrappingSub]

theorem range_holes_table_eq (h : D.WF) (ht : tg.WF) (a b : Int) (ha : a ∈ D.vals) (hb : b ∈ D.vals) :
    T.range_holes_table D tg md a b = (rangeIdx D tg a b).bind fun (si, ei) => rangeSlice D si ei := by
  obtain ⟨ia, ib, hri, -, hvb⟩ := rangeIdx_spec D tg h ht a b ha hb
  simp only [T.range_holes_table, cast_val h ha, cast_val h hb, hri]
  rw [forFold_holes D tg a b ia ib hri]
  · simp only [Res.bind_ok, assumeInit]
    exact slice_eq D tg ia ib (idx_lt D tg h ht b ib hvb)
  · intro x y r
    by_cases h1 : r.contains a = true <;> by_cases h2 : r.contains b = true <;> simp [h1, h2, idxOf, idx_cast, wrappingSub]

/-- `range(a, b)` of the source is the schema model's `rangeInit`, in every configuration the macro accepts -/
theorem range_eq (h : D.WF) (ht : tg.WF) (a b : Int) (ha : a ∈ D.vals) (hb : b ∈ D.vals)
    (hm : md.iter = .nextAndBack ∨ md.iter = .table ∨ (md.iter = .range ∧ D.gapless = true)) :
    T.range D tg md a b = rangeInit D tg md.iter a b := by
  unfold T.range rangeInit
  cases hg : D.gapless
  · rcases hm with hm | hm | ⟨_, hc⟩
    · simp [hm, range_holes_nb_eq D tg md h ht a b ha hb]
    · simp [hm, range_holes_table_eq D tg md h ht a b ha hb]
    · simp [hg] at hc
  · rcases hm with hm | hm | ⟨hm, _⟩ <;>
      simp [hm, range_gapless_range_eq D tg md h a b ha hb, range_gapless_nb_eq D tg md h ht hg a b ha hb,
        range_gapless_table_eq D tg md h ht hg a b ha hb]

/-! ### running the translated iterator = running the schema model's state machine over the translated `next` / `next_back` -/

theorem nthT_eq (hm : md.iter = .nextAndBack) (k : Nat) : ∀ (fwd bwd : Option Int) (n : Nat), (n : Int) ≤ usizeMax tg + 1 →
    nthT D tg md k fwd bwd n = nbNth (T.next D tg md) k fwd bwd n := by
  induction k with
  | zero => exact iter_next_eq D tg md hm
  | succ k ih =>
    intro fwd bwd n hn
    simp only [nthT, nbNth, iter_next_eq D tg md hm fwd bwd n hn, nbNext]
    split
    · rfl
    · cases fwd with
      | none => rfl
      | some x =>
        dsimp only
        cases hx : T.next D tg md x with
        | ok fwd' => exact ih fwd' bwd (n - 1) (by omega)
        | panic w => rfl
        | ub w => rfl

theorem nthBackT_eq (hm : md.iter = .nextAndBack) (k : Nat) : ∀ (fwd bwd : Option Int) (n : Nat), (n : Int) ≤ usizeMax tg + 1 →
    nthBackT D tg md k fwd bwd n = nbNthBack (T.nextBack D tg md) k fwd bwd n := by
  induction k with
  | zero => exact iter_next_back_eq D tg md hm
  | succ k ih =>
    intro fwd bwd n hn
    simp only [nthBackT, nbNthBack, iter_next_back_eq D tg md hm fwd bwd n hn, nbNextBack]
    split
    · rfl
    · cases bwd with
      | none => rfl
      | some x =>
        dsimp only
        cases hx : T.nextBack D tg md x with
        | ok bwd' => exact ih fwd bwd' (n - 1) (by omega)
        | panic w => rfl
        | ub w => rfl

/-- the length field is at most `usize::MAX + 1`, so the `usize` arithmetic of the translated methods is that of `nbNext`
(all they compute is `len - 1`, and only when `len ≠ 0`) -/
def LenOK (tg : Target) : IterState Int → Prop
  | .cursor _ => True
  | .nb _ _ n => (n : Int) ≤ usizeMax tg + 1

theorem stepT_eq (hm : md.iter = .nextAndBack) (st : IterState Int) (hl : LenOK tg st) (op : Op) :
    stepT D tg md st op = IterState.step (T.next D tg md) (T.nextBack D tg md) st op := by
  cases st with
  | cursor l => rfl
  | nb fwd bwd n =>
    cases op <;> simp [stepT, IterState.step, iter_next_eq D tg md hm fwd bwd n hl, iter_next_back_eq D tg md hm fwd bwd n hl,
      nthT_eq D tg md hm _ fwd bwd n hl, nthBackT_eq D tg md hm _ fwd bwd n hl, iter_len_eq D tg md hm, iter_size_hint_eq D tg md hm]

end ET.T
