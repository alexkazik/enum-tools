/-
`Features::resolve` over the regenerated rules: what `resolve_auto` does to flags and modes (proved so as to survive a
reshaping of the generated `if`s), the layering of the rules, and `resolve_ok`.
-/
import EnumToolsModel.Lemmas.Horn
import EnumToolsModel.Lemmas.General
import EnumToolsModel.Macro
namespace ET
open Generated

/-- `resolve_auto` only ever adds the flag `tableName` -/
theorem autoFlags_spec (sh : Shape) (fl : Flags) (m : Modes) (f : Flag) :
    (f ∈ fl → f ∈ autoFlags sh fl m) ∧ (f ∈ autoFlags sh fl m → f ∈ fl ∨ f = .tableName) := by
  -- however the generated conditions are nested, every branch ends in `fl` or in `fl` with `tableName` added
  have : autoFlags sh fl m = fl ∨ autoFlags sh fl m = fl ++ [.tableName] := by
    unfold autoFlags
    simp only []
    (repeat' split) <;> simp
  rcases this with e | e <;> rw [e]
  · exact ⟨id, Or.inl⟩
  · simp only [List.mem_append, List.mem_singleton]
    exact ⟨Or.inl, id⟩

/-! With `ite_eq_iff`, `simp` turns the generated nest of `if`s into a formula whatever its shape (`split` costs several times
as much); equivalent code nested differently can leave implications between the conditions, which `simp +contextual` closes. -/

/-- no enabled feature stays in `auto` -/
theorem autoModes_ne_auto (sh : Shape) (fl : Flags) (m : Modes) :
    (.asStr ∈ fl → (autoModes sh fl m).asStr ≠ .auto) ∧ (.fromStrFn ∈ fl → (autoModes sh fl m).fromStrFn ≠ .auto) ∧
    (.fromStrTrait ∈ fl → (autoModes sh fl m).fromStrTrait ≠ .auto) ∧ (.iter ∈ fl → (autoModes sh fl m).iter ≠ .auto) := by
  unfold autoModes
  refine ⟨?_, ?_, ?_, ?_⟩ <;> intro h <;> simp [ite_eq_iff, h] <;> simp +contextual

/-- an explicit mode is kept -/
theorem autoModes_keep (sh : Shape) (fl : Flags) (m : Modes) :
    (m.asStr ≠ .auto → (autoModes sh fl m).asStr = m.asStr) ∧ (m.fromStrFn ≠ .auto → (autoModes sh fl m).fromStrFn = m.fromStrFn) ∧
    (m.fromStrTrait ≠ .auto → (autoModes sh fl m).fromStrTrait = m.fromStrTrait) ∧ (m.iter ≠ .auto → (autoModes sh fl m).iter = m.iter) := by
  unfold autoModes
  refine ⟨?_, ?_, ?_, ?_⟩ <;> intro h <;> simp [h]

/-- the mode picked for `iter` is legal: `range` only on a gapless enum, `table_inline` only without `range` -/
theorem autoModes_iter_auto (sh : Shape) (fl : Flags) (m : Modes) (h : m.iter = .auto) :
    ((autoModes sh fl m).iter = .range → sh.gapless = true) ∧ ((autoModes sh fl m).iter = .tableInline → .range ∉ fl) := by
  unfold autoModes
  constructor <;> simp [ite_eq_iff, h] <;> simp +contextual

/-- the rules are layered: no rule at or after a rule's position sets that rule's source -/
theorem rules_ordered : ordered Generated.rules = true := by decide +kernel

/-- the flags between the two passes of `resolve`: the rules have run once, `resolve_auto` has added its own -/
def afterAuto (sh : Shape) (fl : Flags) (m : Modes) : Flags := autoFlags sh (runRules rules m sh.gapless fl) m

/-- `resolve` succeeds exactly when both rounds of `abort!`s stay silent; the modes are those picked after the first pass -/
theorem resolve_ok (sh : Shape) (fl : Flags) (m : Modes) (fl2 : Flags) (m2 : Modes) :
    resolve sh fl m = .ok (fl2, m2) ↔
      aborts.find? (abortFires m sh.gapless fl) = none ∧
      m2 = autoModes sh (afterAuto sh fl m) m ∧
      aborts.find? (abortFires m2 sh.gapless (afterAuto sh fl m)) = none ∧
      fl2 = runRules rules m2 sh.gapless (afterAuto sh fl m) := by
  unfold resolve resolveWith afterAuto
  simp only [resolveAuto]
  constructor
  · intro h
    split at h
    · cases h
    · rename_i h1
      split at h
      · cases h
      · rename_i h2
        obtain ⟨rfl, rfl⟩ := Prod.mk.inj (Except.ok.inj h)
        exact ⟨h1, rfl, h2, rfl⟩
  · intro ⟨h1, hm, h2, hf⟩
    rw [h1]
    subst hm
    simp only [h2, hf]

theorem resolve_empty (sh : Shape) (m : Modes) : ∃ r, resolve sh [] m = .ok r := by
  have hab : ∀ (mm : Modes), aborts.find? (abortFires mm sh.gapless []) = none := by
    intro mm; rw [List.find?_eq_none]; intro a _; simp [abortFires]
  have h0 : afterAuto sh [] m = [] := by simp [afterAuto, runRules_nil, autoFlags]
  refine ⟨(_, _), (resolve_ok sh [] m _ _).mpr ⟨hab m, rfl, ?_, rfl⟩⟩
  rw [h0]
  exact hab _

theorem IterMode.of_ne (i : IterMode) (h1 : i ≠ .auto) (h2 : i ≠ .tableInline) : i = .range ∨ i = .nextAndBack ∨ i = .table := by
  cases i <;> simp at h1 h2 ⊢

/-! `Flag.all` and `Modes.all` are complete: a statement over these lists (`usesCovered`,
`C10_no_table_range_when_gapless`) speaks of every flag and every choice of modes. -/

theorem Mode3.mem_all (m : Mode3) : m ∈ Mode3.all := by cases m <;> decide

theorem IterMode.mem_all (m : IterMode) : m ∈ IterMode.all := by cases m <;> decide

theorem Modes.mem_all (m : Modes) : m ∈ Modes.all := by
  simp only [Modes.all, List.mem_flatMap, List.mem_map]
  exact ⟨m.asStr, Mode3.mem_all _, m.fromStrFn, Mode3.mem_all _, m.fromStrTrait, Mode3.mem_all _, m.iter, IterMode.mem_all _, rfl⟩

theorem Flag.mem_all (f : Flag) : f ∈ Flag.all := by cases f <;> decide

end ET
