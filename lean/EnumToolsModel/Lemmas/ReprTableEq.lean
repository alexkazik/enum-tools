/-
The repr table of `Derive::parse` (translated on every run into Generated/ReprTable.lean) against the model's `reprTable`.
-/
import EnumToolsModel.Parse
import EnumToolsModel.Generated.ReprTable
namespace ET

/-- what one arm `(r, size, u)` of the source's repr table must say for the model's `reprTable`: `r` is a repr of the model with that
guessed size, and `u` names the *unsigned* type of exactly `r`'s width -- the companion every index computation goes through
(`.. as #repr_unsigned as usize`); a wider or signed companion sign-extends, a narrower one truncates -/
def armAgrees (t : Target) (a : String × Nat × String) : Bool :=
  match reprTable t a.1, reprTable t a.2.2 with
  | some (p, sg, ub), some (q, _, _) => sg == a.2.1 && p.bits == ub && q.bits == ub && !q.signed
  | _, _ => false

/-- the repr table as written in `parser/mod.rs` on this run is the model's: the same twelve reprs, the same size guesses, and for
every repr the unsigned companion of the same width (for every pointer width of the target) -/
theorem repr_table_source (t : Target) :
    (ET.Generated.reprArms.all (armAgrees t)) = true
    ∧ (∀ r, (reprTable t r).isSome ↔ r ∈ ET.Generated.reprArms.map (·.1)) := by
  refine ⟨?_, fun r => ⟨fun h => ?_, fun h => ?_⟩⟩
  · simp [ET.Generated.reprArms, armAgrees, reprTable]
  · -- each of the model's twelve reprs is among the arms; the catch-all gives `none`
    unfold reprTable at h
    split at h <;> first | decide | cases h
  · -- whether the model knows a repr does not depend on the target, so every arm can be looked up
    have indep : (reprTable t r).isSome = (reprTable {} r).isSome := by unfold reprTable; split <;> rfl
    rw [indep]
    exact List.all_eq_true.mp
      (by decide +kernel : ((ET.Generated.reprArms.map (·.1)).all fun r => (reprTable {} r).isSome) = true) r h

end ET
