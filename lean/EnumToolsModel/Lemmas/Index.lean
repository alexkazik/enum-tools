/-
Table modes: the index computed by the generated code is the position of the variant in value order.
-/
import EnumToolsModel.Lemmas.WF
namespace ET

theorem toIndex_of_pos (D : Derive) (t : Target) (h : D.WF) (ht : t.WF) (y : Int) {k : Nat} {v : Int}
    (hk : D.vals[k]? = some v) (hy : y % (2 : Int) ^ D.repr.bits = (k : Int) % (2 : Int) ^ D.repr.bits) :
    toIndex D t (D.repr.wrap y) = k := by
  have hk : k < D.numValues := D.vals_length ▸ (List.getElem?_eq_some_iff.mp hk).1
  have h1 : (k : Int) < (2 : Int) ^ D.ubits := by have := h.count_le; omega
  have h2 : (k : Int) < (2 : Int) ^ t.ptrBits := by have := ht.two_pow_le; have := h.count_lt; omega
  rw [toIndex_eq D t y k h.ubits_le (Int.natCast_nonneg k) h1 h2 hy, Int.toNat_natCast]

/-- the specification's name lookup, by position: names are aligned with values -/
theorem spec_asStr_of_pos (D : Derive) (h : D.WF) (k : Nat) (v : Int) (hv : D.vals[k]? = some v) :
    ∃ n, D.names[k]? = some n ∧ spec.asStr D.sem v = some n := by
  simp only [Derive.vals, List.getElem?_map, Option.map_eq_some_iff] at hv
  obtain ⟨x, hx, rfl⟩ := hv
  exact ⟨x.2.2, by simp [Derive.names, hx],
    h.spec_asStr_of_mem (p := (x.1, x.2.2)) (List.mem_map_of_mem (List.mem_of_getElem? hx))⟩

theorem pos_gapless (D : Derive) (t : Target) (h : D.WF) (ht : t.WF) (hg : D.gapless = true) (v : Int) (hv : v ∈ D.vals) :
    D.vals[toIndex D t (D.repr.wrap (v - minC D))]? = some v := by
  obtain ⟨h1, h2⟩ := (h.mem_gapless hg v).mp hv
  have hk : D.vals[(v - D.minKey).toNat]? = some v := by
    rw [h.gapless_interval hg, interval_getElem?_of_mem _ _ _ h1 h2]
  rwa [toIndex_of_pos D t h ht _ hk (by unfold minC; congr 1; omega)]

/-- position of a variant through the run table: with the table split around the run `r` of `v`, the
index expression with `r`'s offset evaluates to the position of `v` -/
theorem Derive.WF.run_index {D : Derive} (h : D.WF) {t : Target} (ht : t.WF) {v : Int} (hv : v ∈ D.vals) :
    ∃ P r R, tableRange D = P ++ r :: R ∧ r.contains v = true ∧ (∀ q ∈ P, q.contains v = false) ∧
      (∀ q ∈ R, q.contains v = false) ∧ D.vals[toIndex D t (D.repr.wrap (v - r.ofs))]? = some v := by
  obtain ⟨P, r, R, htbl, hvals, h1, h2, hP, hR, hofs⟩ := h.run_of hv
  have hj := interval_getElem?_of_mem _ _ _ h1 h2
  have hk : D.vals[(expandT P).length + (v - r.start).toNat]? = some v := by
    rw [hvals, List.append_assoc, List.getElem?_append_right (Nat.le_add_right _ _), Nat.add_sub_cancel_left,
      List.getElem?_append_left (List.getElem?_eq_some_iff.mp hj).1, hj]
  refine ⟨P, r, R, htbl, (r.contains_iff v).mpr ⟨h1, h2⟩, hP, hR, ?_⟩
  rwa [hofs, toIndex_of_pos D t h ht _ hk (by rw [sub_wrap_sub_wrap_emod]; congr 1; omega)]

theorem pos_holes (D : Derive) (t : Target) (h : D.WF) (ht : t.WF) (v : Int) (hv : v ∈ D.vals) :
    ∃ r, (tableRange D).find? (fun r => r.contains v) = some r ∧
      D.vals[toIndex D t (D.repr.wrap (v - r.ofs))]? = some v := by
  obtain ⟨P, r, R, htbl, hc, hP, -, hk⟩ := h.run_index ht hv
  exact ⟨r, List.find?_eq_some_iff_append.mpr ⟨hc, P, R, htbl, by simpa using hP⟩, hk⟩

end ET
