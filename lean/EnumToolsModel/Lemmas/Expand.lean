/-
Anatomy of an accepted derive (`expand t d = .ok x`), the insertion sort of the specification, and
the bridge between the value list the macro computes and the meaning of the declaration.
-/
import EnumToolsModel.Lemmas.ParseValues
import EnumToolsModel.Macro
namespace ET

theorem parseFeatures_errs_prefix : ∀ (specs : List FeatSpec) (fs : Features) (fm : FeatureMap) (errs : List Err),
    errs <+: (parseFeatures specs fs fm errs).2.2 := by
  intro specs
  induction specs with
  | nil => intro fs fm errs; exact List.prefix_refl _
  | cons s rest ih =>
    intro fs fm errs
    unfold parseFeatures
    exact (List.prefix_append _ _).trans (ih _ _ _)

/-- an accepted configuration stage: no error was pending, no feature was left unclaimed, the enum data
is passed through unchanged, and `resolve` succeeded on the shape of this enum -/
theorem configStage_ok (D : Derive) (sorted : Sorted) (fm : FeatureMap) (errs : List Err) (x : Expansion)
    (h : configStage D sorted fm errs = .ok x) :
    errs = [] ∧ (parseFeatures Generated.catalog {} fm errs).2.1 = [] ∧ x.D = D ∧ x.sorted = sorted ∧
      ∃ fl m, resolve { gapless := D.gapless, numValues := D.numValues, sizeGuess := D.sizeGuess } fl m = .ok (x.flags, x.modes) := by
  unfold configStage at h
  dsimp only at h
  obtain ⟨e, he⟩ := parseFeatures_errs_prefix Generated.catalog {} fm errs
  generalize parseFeatures Generated.catalog {} fm errs = pf at h he ⊢
  split at h
  · cases h
  · rename_i fl m hres
    split at h
    · rename_i hemp
      cases h
      rw [List.isEmpty_iff, ← he, List.append_eq_nil_iff, List.append_eq_nil_iff, List.map_eq_nil_iff] at hemp
      exact ⟨hemp.1.1, hemp.2, rfl, rfl, _, _, hres⟩
    · cases h

/-- the one path through `Derive::parse` that does not end in an error -/
theorem expandWith_ok_iff (π : List (Int × (Name × Name)) → List (Int × (Name × Name))) (t : Target) (d : Decl) (x : Expansion) :
    expandWith π t d = .ok x ↔
      ∃ a rname repr sg ub pv,
        parseAttrs {} d.attrs = .ok a ∧ a.repr = some rname ∧ reprTable t rname = some (repr, sg, ub) ∧ d.kind = .enum ∧
        pvLoop (parseSorted a.fm).1 { errs := a.errs ++ (parseSorted a.fm).2.2 } d.variants = some pv ∧
        sortByKey (π pv.values) ≠ [] ∧ (sortByKey (π pv.values)).length < 65535 ∧
        configStage { repr := repr, reprName := rname, sizeGuess := sg, ubits := ub, values := sortByKey (π pv.values),
                      ranges := computeRanges ((sortByKey (π pv.values)).map (·.1)) }
          (parseSorted a.fm).1 (parseSorted a.fm).2.1 pv.errs = .ok x := by
  unfold expandWith
  constructor
  · intro h
    -- the checks that end in an error go by `ite_error_eq_ok`: `split` on an `if` with the rest of `expandWith` in its branch is slow
    split at h
    · cases h
    rename_i a ha
    split at h
    · cases h
    rename_i rname hrn
    split at h
    · cases h
    rename_i repr sg ub hrt
    rw [ite_error_eq_ok] at h
    obtain ⟨hkind, h⟩ := h
    split at h
    · cases h
    rename_i pv hpv
    rw [ite_error_eq_ok, ite_error_eq_ok] at h
    obtain ⟨hne, hlen, h⟩ := h
    exact ⟨a, rname, repr, sg, ub, pv, ha, hrn, hrt, by simpa using hkind, hpv, by simpa using hne, by omega, h⟩
  · rintro ⟨a, rname, repr, sg, ub, pv, ha, hrn, hrt, hkind, hpv, hne, hlen, h⟩
    have hne' : (sortByKey (π pv.values)).isEmpty = false := by simpa using hne
    have hlen' : ¬ (sortByKey (π pv.values)).length ≥ 65535 := by omega
    simp only [ha, hrn, hrt, hkind, hpv, hne', hlen', ne_eq, not_true_eq_false, Bool.false_eq_true, if_false]
    exact h

theorem expand_ok (t : Target) (d : Decl) (x : Expansion) (h : expand t d = .ok x) :
    ∃ a rname repr sg ub pv,
      parseAttrs {} d.attrs = .ok a ∧ a.repr = some rname ∧ reprTable t rname = some (repr, sg, ub) ∧ a.errs = [] ∧
      (parseSorted a.fm).2.2 = [] ∧ d.kind = .enum ∧
      pvLoop (parseSorted a.fm).1 { errs := [] } d.variants = some pv ∧ pv.errs = [] ∧
      pv.values ≠ [] ∧ pv.values.length < 65535 ∧
      x.D = { repr := repr, reprName := rname, sizeGuess := sg, ubits := ub, values := sortByKey pv.values,
              ranges := computeRanges ((sortByKey pv.values).map (·.1)) } ∧
      x.sorted = (parseSorted a.fm).1 := by
  obtain ⟨a, rname, repr, sg, ub, pv, ha, hrn, hrt, hkind, hpv, hne, hlen, hcfg⟩ := (expandWith_ok_iff id t d x).mp h
  obtain ⟨hpverrs, _, hD, hS, _⟩ := configStage_ok _ _ _ _ _ hcfg
  -- errors are only appended: the loop ended without any, so it started without any
  have he0 := pvLoop_errs_prefix _ _ _ _ hpv
  rw [hpverrs, List.prefix_nil, List.append_eq_nil_iff] at he0
  rw [he0.1, he0.2] at hpv
  refine ⟨a, rname, repr, sg, ub, pv, ha, hrn, hrt, he0.1, he0.2, hkind, hpv, hpverrs, ?_, ?_, hD, hS⟩
  · exact mt (sortByKey_eq_nil_iff _).mpr hne
  · rwa [sortByKey_length] at hlen

/-- what `expand_ok` says of the variants: the value parser ran without complaint, and the derive works on its map, sorted -/
theorem expand_values (t : Target) (d : Decl) (x : Expansion) (h : expand t d = .ok x) :
    ∃ pv, pvLoop x.sorted { errs := [] } d.variants = some pv ∧ pv.errs = [] ∧ x.D.values = sortByKey pv.values := by
  obtain ⟨_, _, _, _, _, pv, _, _, _, _, _, _, hpv, hpverrs, _, _, hD, hS⟩ := expand_ok t d x h
  exact ⟨pv, hS ▸ hpv, hpverrs, by rw [hD]⟩

theorem expand_resolved (t : Target) (d : Decl) (x : Expansion) (h : expand t d = .ok x) :
    ∃ fl m, resolve { gapless := x.D.gapless, numValues := x.D.numValues, sizeGuess := x.D.sizeGuess } fl m = .ok (x.flags, x.modes) := by
  obtain ⟨_, _, _, _, _, _, _, _, _, _, _, _, _, hcfg⟩ := (expandWith_ok_iff id t d x).mp h
  obtain ⟨_, _, hD, _, hres⟩ := configStage_ok _ _ _ _ _ hcfg
  rw [hD]
  exact hres

/-! ### the specification's sort -/

theorem insertByDisc_perm (x : Int × Name) (l : List (Int × Name)) : (insertByDisc x l).Perm (x :: l) := by
  fun_induction insertByDisc x l with
  | case1 => exact List.Perm.refl _
  | case2 y ys hle => exact List.Perm.refl _
  | case3 y ys hgt ih => exact (List.Perm.cons y ih).trans (List.Perm.swap x y ys)

theorem sortByDisc_perm (l : List (Int × Name)) : (sortByDisc l).Perm l := by
  induction l with
  | nil => exact List.Perm.refl _
  | cons x xs ih =>
    show (insertByDisc x (sortByDisc xs)).Perm (x :: xs)
    exact (insertByDisc_perm x _).trans (List.Perm.cons x ih)

theorem insertByDisc_sorted (x : Int × Name) (l : List (Int × Name)) (h : l.Pairwise (fun a b => a.1 ≤ b.1)) :
    (insertByDisc x l).Pairwise (fun a b => a.1 ≤ b.1) := by
  fun_induction insertByDisc x l with
  | case1 => exact List.pairwise_singleton _ _
  | case2 y ys hle =>
    -- `x` goes in front
    have hp := List.pairwise_cons.mp h
    exact List.pairwise_cons.mpr ⟨List.forall_mem_cons.mpr ⟨hle, fun z hz => Int.le_trans hle (hp.1 z hz)⟩, h⟩
  | case3 y ys hgt ih =>
    -- `x` goes further back: what then follows `y` is `x` or an element of `ys`
    have hp := List.pairwise_cons.mp h
    refine List.pairwise_cons.mpr ⟨fun z hz => ?_, ih hp.2⟩
    rcases List.mem_cons.mp ((insertByDisc_perm x ys).mem_iff.mp hz) with rfl | e
    · omega
    · exact hp.1 z e

theorem sortByDisc_sorted (l : List (Int × Name)) : (sortByDisc l).Pairwise (fun a b => a.1 ≤ b.1) := by
  induction l with
  | nil => simp [sortByDisc]
  | cons x xs ih => exact insertByDisc_sorted x _ ih

/-- the specification's sort does not depend on the declaration order (distinct discriminants) -/
theorem sortByDisc_perm_invariant (l1 l2 : List (Int × Name)) (hp : l1.Perm l2) (hn : (l1.map (·.1)).Nodup) :
    sortByDisc l1 = sortByDisc l2 :=
  sorted_perm_unique (·.1) hn (sortByDisc_perm l1) ((sortByDisc_perm l2).trans hp.symm) (sortByDisc_sorted l1) (sortByDisc_sorted l2)

/-- the macro's sorted value list, stripped of identifiers, is the specification's sorted list -/
theorem sortByKey_map_eq_sortByDisc (vals : List (Int × (Name × Name))) (hn : (vals.map (·.1)).Nodup) :
    (sortByKey vals).map (fun x => (x.1, x.2.2)) = sortByDisc (vals.map (fun x => (x.1, x.2.2))) :=
  sorted_perm_unique (·.1) (by rw [List.map_map]; exact hn) ((sortByKey_perm vals).map _) (sortByDisc_perm _)
    (List.pairwise_map.mpr (sortByKey_le vals)) (sortByDisc_sorted _)

end ET
