/-
The run table: `computeRanges` (a transcription of `parser/mod.rs:67-80`) splits a strictly
ascending list into maximal runs of consecutive integers; `__RANGES` (`table_range.rs`) lists the
runs with offsets that count the variants before each run.
-/
import EnumToolsModel.Lemmas.Arith
namespace ET

/-! ### intervals -/

theorem mem_interval (b e x : Int) : x ∈ interval b e ↔ b ≤ x ∧ x ≤ e := by
  unfold interval
  simp only [List.mem_map, List.mem_range]
  constructor
  · rintro ⟨k, hk, rfl⟩; omega
  · intro h; exact ⟨(x - b).toNat, by omega, by omega⟩

theorem interval_length (b e : Int) : (interval b e).length = (e - b + 1).toNat := by
  simp [interval]

theorem interval_getElem? (b e : Int) (k : Nat) (hk : (k : Int) < e - b + 1) :
    (interval b e)[k]? = some (b + k) := by
  unfold interval
  rw [List.getElem?_map, List.getElem?_range (by omega)]
  rfl

theorem interval_getElem?_of_mem (b e v : Int) (h1 : b ≤ v) (h2 : v ≤ e) : (interval b e)[(v - b).toNat]? = some v := by
  rw [interval_getElem? _ _ _ (by omega)]
  congr 1; omega

theorem interval_self (i : Int) : interval i i = [i] := by
  simp [interval]

theorem interval_empty (b e : Int) (h : e < b) : interval b e = [] := by
  rw [interval, Int.toNat_of_nonpos (by omega)]; rfl

theorem interval_append (b m e : Int) (h1 : b ≤ m + 1) (h2 : m ≤ e) :
    interval b e = interval b m ++ interval (m + 1) e := by
  unfold interval
  have e1 : e - b + 1 = (m - b + 1) + (e - (m + 1) + 1) := by omega
  rw [e1, Int.toNat_add (by omega) (by omega), List.range_add, List.map_append, List.map_map]
  congr 1
  apply List.map_congr_left
  intro k _
  show b + ((m - b + 1).toNat + k : Nat) = m + 1 + k
  omega

theorem interval_cons (b e : Int) (h : b ≤ e) : interval b e = b :: interval (b + 1) e := by
  rw [interval_append b b e (by omega) h, interval_self]; rfl

theorem interval_snoc (b e : Int) (h : b ≤ e) : interval b e = interval b (e - 1) ++ [e] := by
  rw [interval_append b (e - 1) e (by omega) (by omega), Int.sub_add_cancel, interval_self]

theorem interval_split (b v e : Int) (h1 : b ≤ v) (h2 : v ≤ e) :
    interval b e = interval b (v - 1) ++ v :: interval (v + 1) e := by
  rw [interval_append b (v - 1) e (by omega) (by omega), Int.sub_add_cancel, interval_cons v e h2]

theorem interval_pairwise (b e : Int) : (interval b e).Pairwise (· < ·) :=
  List.pairwise_map.mpr (List.pairwise_lt_range.imp fun h => by omega)

/-! ### runs -/

abbrev Run := Int × Int

def expandR (rs : List Run) : List Int := rs.flatMap (fun r => interval r.1 r.2)

/-- runs are non-empty, ascending, and separated by at least one missing integer -/
def WFRuns : List Run → Prop
  | [] => True
  | [r] => r.1 ≤ r.2
  | r :: r2 :: rest => r.1 ≤ r.2 ∧ r.2 + 1 < r2.1 ∧ WFRuns (r2 :: rest)

theorem WFRuns.tail {r : Run} {rs : List Run} (h : WFRuns (r :: rs)) : WFRuns rs := by
  cases rs with
  | nil => trivial
  | cons r2 rest => exact h.2.2

theorem WFRuns.head {r : Run} {rs : List Run} (h : WFRuns (r :: rs)) : r.1 ≤ r.2 := by
  cases rs with
  | nil => exact h
  | cons r2 rest => exact h.1

theorem WFRuns.mem_le {rs : List Run} (hwf : WFRuns rs) {r : Run} (hr : r ∈ rs) : r.1 ≤ r.2 := by
  induction rs with
  | nil => cases hr
  | cons a rest ih =>
    rcases List.mem_cons.mp hr with e | e
    · subst e; exact hwf.head
    · exact ih hwf.tail e

theorem mem_expandR (rs : List Run) (x : Int) : x ∈ expandR rs ↔ ∃ r ∈ rs, r.1 ≤ x ∧ x ≤ r.2 := by
  simp [expandR, mem_interval]

theorem expandR_cons (r : Run) (rest : List Run) : expandR (r :: rest) = interval r.1 r.2 ++ expandR rest := by
  simp [expandR]

theorem WFRuns.above {r : Run} {rs : List Run} (h : WFRuns (r :: rs)) : ∀ y ∈ expandR rs, r.2 + 1 < y := by
  induction rs generalizing r with
  | nil => intro y hy; simp [expandR] at hy
  | cons r2 rest ih =>
    intro y hy
    rw [expandR_cons, List.mem_append] at hy
    rcases hy with hy | hy
    · have := (mem_interval _ _ _).mp hy; have := h.2.1; omega
    · have h2 : WFRuns (r2 :: rest) := h.2.2
      have := ih h2 y hy
      have := h.2.1; have := h2.head; omega

/-- so any two runs are separated, the earlier one ending below the later one -/
theorem WFRuns.pairwise : ∀ {rs : List Run}, WFRuns rs → rs.Pairwise (fun a b => a.2 + 1 < b.1)
  | [], _ => .nil
  | _ :: _, h => .cons (fun b hb => h.above b.1 ((mem_expandR _ _).mpr ⟨b, hb, Int.le_refl _, h.tail.mem_le hb⟩))
      h.tail.pairwise

theorem rangesLoop_head (rest : List Int) (b l : Int) : ∃ e tl, rangesLoop b l rest = (b, e) :: tl := by
  fun_induction rangesLoop b l rest with
  | case1 b l => exact ⟨l, [], rfl⟩
  | case2 b l i rest _ _ => exact ⟨l, _, rfl⟩
  | case3 b l i rest _ ih => exact ih

theorem rangesLoop_spec (rest : List Int) : ∀ (b l : Int), b ≤ l → (l :: rest).Pairwise (· < ·) →
    WFRuns (rangesLoop b l rest) ∧ expandR (rangesLoop b l rest) = interval b l ++ rest := by
  intro b l hbl hp
  fun_induction rangesLoop b l rest with
  | case1 b l => simp [WFRuns, expandR, hbl]
  | case2 b l i rest hne ih =>
    -- a gap: close the run, start a new one at i
    obtain ⟨hl, hp'⟩ := List.pairwise_cons.mp hp
    have hi : l < i := hl i (List.mem_cons_self ..)
    obtain ⟨hwf, hex⟩ := ih (Int.le_refl _) hp'
    obtain ⟨e, tl, hshape⟩ := rangesLoop_head rest i i
    rw [expandR_cons, hex, interval_self]
    rw [hshape] at hwf ⊢
    exact ⟨⟨hbl, by show l + 1 < i; omega, hwf⟩, rfl⟩
  | case3 b l i rest hne ih =>
    -- consecutive: extend the run
    obtain rfl : i = l + 1 := Decidable.not_not.mp hne
    obtain ⟨hwf, hex⟩ := ih (Int.le_add_one hbl) (List.pairwise_cons.mp hp).2
    rw [hex, interval_snoc b (l + 1) (Int.le_add_one hbl), Int.add_sub_cancel, List.append_assoc]
    exact ⟨hwf, rfl⟩

theorem computeRanges_spec (vals : List Int) (hp : vals.Pairwise (· < ·)) :
    WFRuns (computeRanges vals) ∧ expandR (computeRanges vals) = vals := by
  cases vals with
  | nil => simp [computeRanges, WFRuns, expandR]
  | cons m rest => simpa [computeRanges, interval_self] using rangesLoop_spec rest m m (Int.le_refl _) hp

theorem computeRanges_ne_nil (vals : List Int) (h : vals ≠ []) : computeRanges vals ≠ [] := by
  cases vals with
  | nil => exact absurd rfl h
  | cons m rest =>
    obtain ⟨e, tl, hs⟩ := rangesLoop_head rest m m
    simp [computeRanges, hs]

theorem expandR_single (r : Run) : expandR [r] = interval r.1 r.2 := by simp [expandR]

/-! ### the `__RANGES` table -/

def expandT (tbl : List RangeEntry) : List Int := tbl.flatMap (fun r => interval r.start r.stop)

def WFTable : List RangeEntry → Prop
  | [] => True
  | [r] => r.start ≤ r.stop
  | r :: r2 :: rest => r.start ≤ r.stop ∧ r.stop + 1 < r2.start ∧ WFTable (r2 :: rest)

/-- entry offsets: `start.wrapping_sub(k)` where `k` counts the values in earlier runs -/
def OfsOK (p : Prim) : Int → List RangeEntry → Prop
  | _, [] => True
  | k, r :: rest => r.ofs = p.wrap (r.start - p.wrap k) ∧ OfsOK p (k + (r.stop - r.start + 1)) rest

theorem WFTable_iff_WFRuns : ∀ (tbl : List RangeEntry), WFTable tbl ↔ WFRuns (tbl.map fun r => (r.start, r.stop))
  | [] => Iff.rfl
  | [_] => Iff.rfl
  | _ :: r2 :: rest => and_congr_right fun _ => and_congr_right fun _ => WFTable_iff_WFRuns (r2 :: rest)

theorem expandT_eq_expandR (tbl : List RangeEntry) : expandT tbl = expandR (tbl.map fun r => (r.start, r.stop)) := by
  rw [expandT, expandR, List.flatMap_map]

theorem WFTable.mem_le {tbl : List RangeEntry} (hwf : WFTable tbl) {r : RangeEntry} (hr : r ∈ tbl) :
    r.start ≤ r.stop :=
  ((WFTable_iff_WFRuns tbl).mp hwf).mem_le (List.mem_map_of_mem (f := fun r => (r.start, r.stop)) hr)

theorem expandT_cons (r : RangeEntry) (rest : List RangeEntry) :
    expandT (r :: rest) = interval r.start r.stop ++ expandT rest := by
  simp [expandT]

theorem mem_expandT (tbl : List RangeEntry) (x : Int) : x ∈ expandT tbl ↔ ∃ r ∈ tbl, r.start ≤ x ∧ x ≤ r.stop := by
  simp [expandT, mem_interval]

theorem RangeEntry.contains_iff (r : RangeEntry) (x : Int) : r.contains x = true ↔ r.start ≤ x ∧ x ≤ r.stop := by
  simp [RangeEntry.contains]

theorem RangeEntry.not_contains_iff (r : RangeEntry) (x : Int) : r.contains x = false ↔ ¬ (r.start ≤ x ∧ x ≤ r.stop) := by
  rw [← r.contains_iff, Bool.not_eq_true]

theorem expandT_append (a b : List RangeEntry) : expandT (a ++ b) = expandT a ++ expandT b := by
  simp [expandT]

theorem OfsOK.ofs_append {p : Prim} {r : RangeEntry} {R : List RangeEntry} :
    ∀ {P : List RangeEntry} {k : Int}, (∀ q ∈ P, q.start ≤ q.stop) → OfsOK p k (P ++ r :: R) →
      r.ofs = p.wrap (r.start - p.wrap (k + (expandT P).length))
  | [], k, _, h => by simpa [expandT] using h.1
  | q :: P, k, hle, h => by
    have hq := hle q (List.mem_cons_self ..)
    rw [ofs_append (fun q' hq' => hle q' (List.mem_cons_of_mem _ hq')) h.2, expandT_cons, List.length_append,
      interval_length]
    congr 3; omega

/-- the emitted table has the runs' bounds (all inside the repr), is well-formed, expands to the
same list and carries the counting offsets -/
theorem tableRangeGo_spec (p : Prim) (hb : 1 ≤ p.bits) (runs : List Run) :
    ∀ (k : Int), WFRuns runs → (∀ r ∈ runs, p.InRange r.1 ∧ p.InRange r.2) →
      WFTable (tableRangeGo p k runs) ∧ expandT (tableRangeGo p k runs) = expandR runs ∧ OfsOK p k (tableRangeGo p k runs)
      ∧ (tableRangeGo p k runs).map (fun r => (r.start, r.stop)) = runs := by
  -- the literals are the bounds themselves; well-formedness and expansion then carry over from the runs
  have key : ∀ (k : Int), (∀ r ∈ runs, p.InRange r.1 ∧ p.InRange r.2) →
      OfsOK p k (tableRangeGo p k runs) ∧ (tableRangeGo p k runs).map (fun r => (r.start, r.stop)) = runs := by
    induction runs with
    | nil => intro k _; exact ⟨trivial, rfl⟩
    | cons r rest ih =>
      intro k hin
      obtain ⟨b, e⟩ := r
      have hr := hin (b, e) (List.mem_cons_self ..)
      obtain ⟨ihofs, ihmap⟩ := ih (k + (e - b + 1)) fun r' hr' => hin r' (List.mem_cons_of_mem _ hr')
      have hlb : lit p b = b := p.wrap_of_inRange hb b hr.1
      have hle : lit p e = e := p.wrap_of_inRange hb e hr.2
      rw [tableRangeGo, hlb, hle]
      exact ⟨⟨rfl, ihofs⟩, by rw [List.map_cons, ihmap]⟩
  intro k hwf hin
  obtain ⟨hofs, hmap⟩ := key k hin
  exact ⟨(WFTable_iff_WFRuns _).mpr (hmap.symm ▸ hwf), by rw [expandT_eq_expandR, hmap], hofs, hmap⟩

end ET
