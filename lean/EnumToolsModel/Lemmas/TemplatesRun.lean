/-
Any finite history of iterator operations on the translated `iter()` / `range()` — run through the
translated `next_and_back` methods (`TRun.lean`) — against the specification cursor.  In every other mode
the initial state is a cursor (`iterInit_cursor`, `rangeInit_cursor` in `Lemmas/Range`), which needs no such argument.
-/
import EnumToolsModel.Lemmas.TemplatesEq
namespace ET.T
open ET ET.Rust

variable (D : Derive) (tg : Target) (md : Modes)

theorem runT_cursor (ops : List Op) : ∀ (l : List Int),
    runT D tg md (.cursor l) ops = .ok (.cursor (Cursor.run l ops).1, (Cursor.run l ops).2) := by
  induction ops with
  | nil => intro l; rfl
  | cons op ops ih =>
    intro l
    simp only [runT, stepT, Res.bind_ok, ih, Cursor.run]

theorem finishT_cursor (l : List Int) (f : Fin) : finishT D tg md (.cursor l) f = .ok (Cursor.finish l f) := by
  cases f <;> simp [finishT, drainT, drainBackT, Cursor.finish]

/-- the fuel is the one `fuelOf` gives: one more than the length, for the last call, which sees length 0 -/
theorem drainT_eq (hm : md.iter = .nextAndBack) : ∀ (len : Nat) (fwd bwd : Option Int), (len : Int) ≤ usizeMax tg + 1 →
    drainT D tg md (len + 1) (.nb fwd bwd len) = nbDrain (T.next D tg md) len fwd := by
  intro len fwd bwd hn
  fun_induction nbDrain (T.next D tg md) len fwd generalizing bwd with
  | case1 fwd => rw [drainT, iter_next_eq D tg md hm fwd bwd 0 hn]; rfl
  | case2 n => rw [drainT, iter_next_eq D tg md hm none bwd (n + 1) hn]; rfl
  | case3 n x ih =>
    simp only [drainT, iter_next_eq D tg md hm (some x) bwd (n + 1) hn, nbNext, Nat.add_one_ne_zero, if_false, Nat.add_sub_cancel]
    cases hx : T.next D tg md x with
    | ok fwd' => simp only [Res.bind_ok, ih fwd' bwd (by omega)]
    | panic w => rfl
    | ub w => rfl

theorem drainBackT_eq (hm : md.iter = .nextAndBack) : ∀ (len : Nat) (fwd bwd : Option Int), (len : Int) ≤ usizeMax tg + 1 →
    drainBackT D tg md (len + 1) (.nb fwd bwd len) = nbDrainBack (T.nextBack D tg md) len bwd := by
  intro len fwd bwd hn
  fun_induction nbDrainBack (T.nextBack D tg md) len bwd generalizing fwd with
  | case1 bwd => rw [drainBackT, iter_next_back_eq D tg md hm fwd bwd 0 hn]; rfl
  | case2 n => rw [drainBackT, iter_next_back_eq D tg md hm fwd none (n + 1) hn]; rfl
  | case3 n x ih =>
    simp only [drainBackT, iter_next_back_eq D tg md hm fwd (some x) (n + 1) hn, nbNextBack, Nat.add_one_ne_zero, if_false,
      Nat.add_sub_cancel]
    cases hx : T.nextBack D tg md x with
    | ok bwd' => simp only [Res.bind_ok, ih bwd' fwd (by omega)]
    | panic w => rfl
    | ub w => rfl

theorem finishT_eq (hm : md.iter = .nextAndBack) (st : IterState Int) (hl : LenOK tg st) (f : Fin) :
    finishT D tg md st f = IterState.finish (T.next D tg md) (T.nextBack D tg md) st f := by
  cases st with
  | cursor l => rw [finishT_cursor]; rfl
  | nb fwd bwd n =>
    cases f <;> simp [finishT, IterState.finish, fuelOf, drainT_eq D tg md hm n fwd bwd hl, drainBackT_eq D tg md hm n fwd bwd hl]

theorem lenOK_of_sim (h : D.WF) (ht : tg.WF) (st : IterState Int) (l : List Int) (hs : Sim D.vals st l) : LenOK tg st := by
  cases st with
  | cursor l => trivial
  | nb fwd bwd len =>
    have := hs.length_eq.2
    have := D.vals_length
    have := h.count_lt
    have := usizeMax_ge tg ht
    show (len : Int) ≤ usizeMax tg + 1
    omega

/-- any finite history on a state that represents `l`: same outputs as the cursor, and the state keeps representing the rest -/
theorem runT_sim (h : D.WF) (ht : tg.WF) (hm : md.iter = .nextAndBack)
    (hs : StepFns D.vals (T.next D tg md) (T.nextBack D tg md)) (ops : List Op) :
    ∀ (st : IterState Int) (l : List Int), Sim D.vals st l →
      ∃ st', runT D tg md st ops = .ok (st', (Cursor.run l ops).2) ∧ Sim D.vals st' (Cursor.run l ops).1 := by
  induction ops with
  | nil => intro st l hsim; exact ⟨st, rfl, hsim⟩
  | cons op ops ih =>
    intro st l hsim
    obtain ⟨st1, h1, h2⟩ := step_sim hs st l hsim op
    obtain ⟨st2, h3, h4⟩ := ih st1 _ h2
    refine ⟨st2, ?_, ?_⟩
    · simp only [runT, stepT_eq D tg md hm st (lenOK_of_sim D tg h ht st l hsim) op, h1, Res.bind_ok, h3, Cursor.run]
    · simpa [Cursor.run] using h4

/-- the whole observation: a history and a consuming operation, on an initial state that represents `l` -/
theorem observeT (h : D.WF) (ht : tg.WF)
    (hs : StepFns D.vals (T.next D tg md) (T.nextBack D tg md))
    (st : IterState Int) (l : List Int) (hsim : Sim D.vals st l)
    (hmode : md.iter = .nextAndBack ∨ ∃ l', st = .cursor l') (ops : List Op) (fin : Fin) :
    ∃ st', runT D tg md st ops = .ok (st', (Cursor.run l ops).2) ∧
      finishT D tg md st' fin = .ok (Cursor.finish (Cursor.run l ops).1 fin) := by
  rcases hmode with hm | ⟨l', rfl⟩
  · obtain ⟨st', h1, h2⟩ := runT_sim D tg md h ht hm hs ops st l hsim
    refine ⟨st', h1, ?_⟩
    rw [finishT_eq D tg md hm st' (lenOK_of_sim D tg h ht st' _ h2)]
    exact finish_sim hs st' _ h2 fin
  · cases hsim with
    | cursor l => exact ⟨_, runT_cursor D tg md ops l, finishT_cursor D tg md _ fin⟩

end ET.T
