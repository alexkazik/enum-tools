/-
Fixed-width arithmetic: `wrap` algebra and the index law behind every table mode.
All statements are over a symbolic width.
-/
import EnumToolsModel.Gen
namespace ET

theorem two_pow_pos (n : Nat) : (0 : Int) < (2 : Int) ^ n := Int.pow_pos (by decide)

theorem natCast_two_pow (n : Nat) : ((2 ^ n : Nat) : Int) = (2 : Int) ^ n := by simp

theorem Prim.wrap_emod (p : Prim) (x : Int) : (p.wrap x) % (2 : Int) ^ p.bits = x % (2 : Int) ^ p.bits := by
  unfold Prim.wrap
  split
  · rw [← natCast_two_pow, Int.bmod_emod]
  · exact Int.emod_emod_of_dvd x (Int.dvd_refl _)

theorem two_pow_pred_double (n : Nat) (h : 1 ≤ n) : (2 : Int) ^ n = 2 * (2 : Int) ^ (n - 1) := by
  rw [← Int.pow_succ', Nat.sub_add_cancel h]

theorem Prim.wrap_of_inRange (p : Prim) (hb : 1 ≤ p.bits) (x : Int) (h : p.InRange x) : p.wrap x = x := by
  unfold Prim.InRange Prim.lo Prim.hi at h
  unfold Prim.wrap
  have hd := two_pow_pred_double p.bits hb
  cases hs : p.signed <;> simp only [hs, if_true, if_false, Bool.false_eq_true] at h ⊢
  · exact Int.emod_eq_of_lt (by omega) (by omega)
  · rw [← natCast_two_pow] at hd
    exact Int.bmod_eq_of_le_mul_two (by omega) (by omega)

theorem Prim.wrap_inRange (p : Prim) (hb : 1 ≤ p.bits) (x : Int) : p.InRange (p.wrap x) := by
  unfold Prim.InRange Prim.lo Prim.hi Prim.wrap
  have hd := two_pow_pred_double p.bits hb
  cases hs : p.signed <;> simp only [if_true, if_false, Bool.false_eq_true]
  · have h1 := Int.emod_nonneg x (Int.ne_of_gt (two_pow_pos p.bits))
    have h2 := Int.emod_lt_of_pos x (two_pow_pos p.bits)
    omega
  · -- `bmod` lies in `[-(m / 2), (m + 1) / 2)`, here with `m = 2 * 2 ^ (bits - 1)`
    have h1 := @Int.le_bmod x (2 ^ p.bits) (Nat.two_pow_pos _)
    have h2 := @Int.bmod_lt x (2 ^ p.bits) (Nat.two_pow_pos _)
    rw [natCast_two_pow, hd] at h1 h2
    omega

theorem Prim.lo_le_hi (p : Prim) : p.lo ≤ p.hi := by
  unfold Prim.lo Prim.hi
  have := two_pow_pos (p.bits - 1)
  have := two_pow_pos p.bits
  split <;> omega

theorem Prim.hi_sub_lo (p : Prim) (hb : 1 ≤ p.bits) : p.hi - p.lo + 1 = (2 : Int) ^ p.bits := by
  unfold Prim.lo Prim.hi
  have hd := two_pow_pred_double p.bits hb
  split <;> omega

theorem Prim.wrap_congr (p : Prim) (x y : Int) (h : x % (2 : Int) ^ p.bits = y % (2 : Int) ^ p.bits) :
    p.wrap x = p.wrap y := by
  unfold Prim.wrap
  split
  · unfold Int.bmod
    rw [natCast_two_pow, h]
  · exact h

/-- `wrapping_add(1)`: the successor, except at the type's MAX where it is the type's MIN -/
theorem Prim.wrap_succ (p : Prim) (hb : 1 ≤ p.bits) (v : Int) (h : p.InRange v) :
    p.wrap (v + 1) = if v = p.hi then p.lo else v + 1 := by
  split
  · have e : v + 1 = p.lo + (2 : Int) ^ p.bits := by have := p.hi_sub_lo hb; omega
    rw [p.wrap_congr (v + 1) p.lo (by rw [e, Int.add_emod_right]), p.wrap_of_inRange hb _ ⟨Int.le_refl _, p.lo_le_hi⟩]
  · exact p.wrap_of_inRange hb _ (by unfold Prim.InRange at *; omega)

/-- `wrapping_sub(1)`: the predecessor, except at the type's MIN where it is the type's MAX -/
theorem Prim.wrap_pred (p : Prim) (hb : 1 ≤ p.bits) (v : Int) (h : p.InRange v) :
    p.wrap (v - 1) = if v = p.lo then p.hi else v - 1 := by
  split
  · have e : v - 1 = p.hi - (2 : Int) ^ p.bits := by have := p.hi_sub_lo hb; omega
    rw [p.wrap_congr (v - 1) p.hi (by rw [e, Int.sub_emod_right]), p.wrap_of_inRange hb _ ⟨p.lo_le_hi, Int.le_refl _⟩]
  · exact p.wrap_of_inRange hb _ (by unfold Prim.InRange at *; omega)

/-- `(i as repr).wrapping_add(MIN)` is `MIN + i` whenever that is a value of the type -/
theorem Prim.wrap_wrap_add (p : Prim) (hb : 1 ≤ p.bits) (i m : Int) (h : p.InRange (m + i)) :
    p.wrap (p.wrap i + m) = m + i := by
  have : p.wrap (p.wrap i + m) = p.wrap (m + i) := by
    apply p.wrap_congr
    rw [Int.add_emod, p.wrap_emod, ← Int.add_emod, Int.add_comm]
  rw [this, p.wrap_of_inRange hb _ h]

/-- Stepping over an end of `[s, e]` leaves it, also when the step wraps around to the other end of the
type, unless `[s, e]` is the whole type. -/
theorem Prim.wrap_succ_outside (p : Prim) (hb : 1 ≤ p.bits) {s e : Int} (he : p.InRange e) (hp : p.lo < s ∨ e < p.hi) :
    ¬ (s ≤ p.wrap (e + 1) ∧ p.wrap (e + 1) ≤ e) := by
  rw [p.wrap_succ hb e he]
  split <;> omega

theorem Prim.wrap_pred_outside (p : Prim) (hb : 1 ≤ p.bits) {s e : Int} (hs : p.InRange s) (hp : p.lo < s ∨ e < p.hi) :
    ¬ (s ≤ p.wrap (s - 1) ∧ p.wrap (s - 1) ≤ e) := by
  rw [p.wrap_pred hb s hs]
  split <;> omega

/-- The index law: if `y ≡ k (mod 2^bits)` and `k` is a legal index, then `wrap y as unsigned as usize` is `k`.
Needs only that the unsigned companion is no wider than the repr. -/
theorem toIndex_eq (D : Derive) (t : Target) (y k : Int)
    (hub : D.ubits ≤ D.repr.bits) (hk0 : 0 ≤ k) (hk1 : k < (2 : Int) ^ D.ubits) (hk2 : k < (2 : Int) ^ t.ptrBits)
    (hy : y % (2 : Int) ^ D.repr.bits = k % (2 : Int) ^ D.repr.bits) :
    toIndex D t (D.repr.wrap y) = k.toNat := by
  unfold toIndex asUnsigned
  have hdvd : (2 : Int) ^ D.ubits ∣ (2 : Int) ^ D.repr.bits := by
    rw [← natCast_two_pow, ← natCast_two_pow]; exact Int.natCast_dvd_natCast.mpr (Nat.pow_dvd_pow 2 hub)
  have h1 : (D.repr.wrap y) % (2 : Int) ^ D.ubits = k := by
    rw [← Int.emod_emod_of_dvd (D.repr.wrap y) hdvd, Prim.wrap_emod, hy, Int.emod_emod_of_dvd k hdvd]
    exact Int.emod_eq_of_lt hk0 hk1
  rw [h1, Int.emod_eq_of_lt hk0 hk2]

/-- the residue of the run-table index `v - ofs`, the offset being `wrap (b - wrap o)` as in `OfsOK` -/
theorem sub_wrap_sub_wrap_emod (p : Prim) (v b o : Int) :
    (v - p.wrap (b - p.wrap o)) % (2 : Int) ^ p.bits = (v - (b - o)) % (2 : Int) ^ p.bits := by
  rw [Int.sub_emod, Prim.wrap_emod, Int.sub_emod b, Prim.wrap_emod, ← Int.sub_emod b, ← Int.sub_emod]

end ET
