/-
Well-formedness of the macro's output (`Derive.WF`) — what `Derive::parse` establishes and what
every schema proof starts from — and its first consequences.
-/
import EnumToolsModel.Lemmas.Runs
import EnumToolsModel.Spec
import EnumToolsModel.Lemmas.General
namespace ET

/-- What the generated code may rely on; established by `parse` (`C11_WF`).  `count_lt` is the limit of `parser/mod.rs:60`:
with `Target.WF` a position survives `as usize`, and with `count_le` it survives `as #repr_unsigned`. -/
structure Derive.WF (D : Derive) : Prop where
  nonempty : D.values ≠ []
  sorted : D.vals.Pairwise (· < ·)
  inRange : ∀ v ∈ D.vals, D.repr.InRange v
  ranges_eq : D.ranges = computeRanges D.vals
  bits_pos : 1 ≤ D.repr.bits
  ubits_le : D.ubits ≤ D.repr.bits
  count_le : (D.numValues : Int) ≤ (2 : Int) ^ D.ubits
  count_lt : D.numValues < 65535

/-- pointer width of any Rust target -/
def Target.WF (t : Target) : Prop := 16 ≤ t.ptrBits

theorem Target.WF.two_pow_le {t : Target} (ht : t.WF) : (2 : Int) ^ 16 ≤ (2 : Int) ^ t.ptrBits := by
  have := Nat.pow_le_pow_right (n := 2) (by decide) ht
  exact_mod_cast this

/-- the enum the derive believes it is looking at, as a specification-level object -/
def Derive.sem (D : Derive) : EnumSem := ⟨D.values.map (fun x => (x.1, x.2.2))⟩

@[simp] theorem Derive.sem_discs (D : Derive) : D.sem.discs = D.vals := by
  simp [Derive.sem, EnumSem.discs, Derive.vals, List.map_map, Function.comp_def]

@[simp] theorem Derive.sem_names (D : Derive) : D.sem.names = D.names := by
  simp [Derive.sem, EnumSem.names, Derive.names, List.map_map, Function.comp_def]

/-- the specification's lookups, through the derive's value list -/
theorem spec_asStr_values (D : Derive) (v : Int) :
    spec.asStr D.sem v = (D.values.find? (·.1 = v)).map (·.2.2) := by
  rw [spec.asStr, Derive.sem, List.find?_map, Option.map_map]; rfl

theorem spec_fromStr_values (D : Derive) (s : Name) :
    spec.fromStr D.sem s = (D.values.find? (·.2.2 = s)).map (·.1) := by
  rw [spec.fromStr, Derive.sem, List.find?_map, Option.map_map]; rfl

theorem Derive.vals_length (D : Derive) : D.vals.length = D.numValues := by
  simp [Derive.vals, Derive.numValues]

theorem Derive.names_length (D : Derive) : D.names.length = D.numValues := by
  simp [Derive.names, Derive.numValues]

namespace Derive.WF
variable {D : Derive} (h : D.WF)
include h

theorem vals_ne_nil : D.vals ≠ [] := fun e => h.nonempty (List.map_eq_nil_iff.mp e)

theorem wrap_val {v : Int} (hv : v ∈ D.vals) : D.repr.wrap v = v :=
  D.repr.wrap_of_inRange h.bits_pos v (h.inRange v hv)

theorem sem_sorted : (D.sem.items.map (·.1)).Pairwise (· < ·) :=
  show D.sem.discs.Pairwise (· < ·) from D.sem_discs ▸ h.sorted

/-- the discriminants being distinct, the specification's lookup of an item's discriminant finds that item -/
theorem spec_asStr_of_mem {p : Int × Name} (hp : p ∈ D.sem.items) : spec.asStr D.sem p.1 = some p.2 := by
  rw [spec.asStr, find_of_mem (·.1) D.sem.items (h.sem_sorted.imp Int.ne_of_lt) p hp]; rfl

theorem runs : WFRuns D.ranges ∧ expandR D.ranges = D.vals := by
  rw [h.ranges_eq]; exact computeRanges_spec D.vals h.sorted

theorem runs_inRange : ∀ r ∈ D.ranges, D.repr.InRange r.1 ∧ D.repr.InRange r.2 := by
  intro r hr
  obtain ⟨hwf, hex⟩ := h.runs
  -- both endpoints of a well-formed run are members of the expansion
  have hrle : r.1 ≤ r.2 := hwf.mem_le hr
  have m1 : r.1 ∈ D.vals := by rw [← hex, mem_expandR]; exact ⟨r, hr, Int.le_refl _, hrle⟩
  have m2 : r.2 ∈ D.vals := by rw [← hex, mem_expandR]; exact ⟨r, hr, hrle, Int.le_refl _⟩
  exact ⟨h.inRange _ m1, h.inRange _ m2⟩

theorem table : WFTable (tableRange D) ∧ expandT (tableRange D) = D.vals ∧ OfsOK D.repr 0 (tableRange D)
    ∧ (tableRange D).map (fun r => (r.start, r.stop)) = D.ranges := by
  obtain ⟨hwf, hex⟩ := h.runs
  have := tableRangeGo_spec D.repr h.bits_pos D.ranges 0 hwf h.runs_inRange
  rw [hex] at this
  exact this

theorem table_length : (tableRange D).length = D.ranges.length := by
  rw [← h.table.2.2.2, List.length_map]

theorem table_pairwise : (tableRange D).Pairwise (fun a b => a.stop + 1 < b.start) :=
  List.pairwise_map.mp ((WFTable_iff_WFRuns _).mp h.table.1).pairwise

theorem entry_le {q : RangeEntry} (hq : q ∈ tableRange D) : q.start ≤ q.stop := h.table.1.mem_le hq

theorem mem_of_entry {q : RangeEntry} (hq : q ∈ tableRange D) {x : Int} (h1 : q.start ≤ x) (h2 : x ≤ q.stop) :
    x ∈ D.vals := by
  rw [← h.table.2.1, mem_expandT]
  exact ⟨q, hq, h1, h2⟩

theorem start_mem {q : RangeEntry} (hq : q ∈ tableRange D) : q.start ∈ D.vals :=
  h.mem_of_entry hq (Int.le_refl _) (h.entry_le hq)

theorem stop_mem {q : RangeEntry} (hq : q ∈ tableRange D) : q.stop ∈ D.vals :=
  h.mem_of_entry hq (h.entry_le hq) (Int.le_refl _)

/-- The run of a variant: the `__RANGES` table splits around the entry that contains `v`.  The
entries lying apart (`table_pairwise`), no other entry contains `v`. -/
theorem run_of {v : Int} (hv : v ∈ D.vals) :
    ∃ P r R, tableRange D = P ++ r :: R ∧ D.vals = expandT P ++ interval r.start r.stop ++ expandT R ∧
      r.start ≤ v ∧ v ≤ r.stop ∧ (∀ q ∈ P, q.contains v = false) ∧ (∀ q ∈ R, q.contains v = false) ∧
      r.ofs = D.repr.wrap (r.start - D.repr.wrap ((expandT P).length : Int)) := by
  obtain ⟨-, hex, hofs, -⟩ := h.table
  obtain ⟨r, hr, h1, h2⟩ := (mem_expandT _ _).mp (hex ▸ hv)
  obtain ⟨P, R, ht⟩ := List.append_of_mem hr
  have hpw := h.table_pairwise
  rw [ht] at hpw hofs
  refine ⟨P, r, R, ht, ?_, h1, h2, fun q hq => ?_, fun q hq => ?_, ?_⟩
  · rw [← hex, ht, expandT_append, expandT_cons, List.append_assoc]
  · have : q.stop + 1 < r.start := hpw.rel_of_mem_append hq (List.mem_cons_self ..)
    exact (q.not_contains_iff v).mpr (by omega)
  · have : r.stop + 1 < q.start := List.rel_of_pairwise_cons (List.pairwise_append.mp hpw).2.1 hq
    exact (q.not_contains_iff v).mpr (by omega)
  · have := OfsOK.ofs_append (fun q hq => h.entry_le (ht ▸ List.mem_append_left _ hq)) hofs
    rwa [Int.zero_add] at this

theorem head?_eq : D.vals.head? = some D.minKey := by
  rw [Derive.minKey, List.head?_eq_some_head h.vals_ne_nil]; rfl

theorem getLast?_eq : D.vals.getLast? = some D.maxKey := by
  rw [Derive.maxKey, List.getLast?_eq_some_getLast h.vals_ne_nil]; rfl

theorem minKey_mem : D.minKey ∈ D.vals := List.mem_of_head? h.head?_eq

theorem maxKey_mem : D.maxKey ∈ D.vals := List.mem_of_getLast? h.getLast?_eq

theorem minKey_le (v : Int) (hv : v ∈ D.vals) : D.minKey ≤ v := by
  obtain ⟨rest, hr⟩ := List.head?_eq_some_iff.mp h.head?_eq
  have hs := h.sorted
  rw [hr] at hs hv
  rcases List.mem_cons.mp hv with rfl | hv
  · exact Int.le_refl _
  · exact Int.le_of_lt (List.rel_of_pairwise_cons hs hv)

theorem le_maxKey (v : Int) (hv : v ∈ D.vals) : v ≤ D.maxKey := by
  obtain ⟨init, hi⟩ := List.getLast?_eq_some_iff.mp h.getLast?_eq
  have hs := h.sorted
  rw [hi] at hs hv
  rcases List.mem_append.mp hv with hv | hv
  · exact Int.le_of_lt (hs.rel_of_mem_append hv (List.mem_singleton_self _))
  · rw [List.mem_singleton.mp hv]; exact Int.le_refl _

theorem gapless_interval (hg : D.gapless = true) : D.vals = interval D.minKey D.maxKey := by
  obtain ⟨r, hr⟩ := List.length_eq_one_iff.mp (beq_iff_eq.mp hg)
  obtain ⟨hwf, hex⟩ := h.runs
  rw [hr] at hwf
  rw [hr, expandR_single] at hex
  have hle : r.1 ≤ r.2 := hwf
  have hmin : D.minKey = r.1 := by rw [Derive.minKey, ← hex, interval_cons _ _ hle]; rfl
  have hmax : D.maxKey = r.2 := by rw [Derive.maxKey, ← hex, interval_snoc _ _ hle, List.getLast?_concat]; rfl
  rw [hmin, hmax, hex]

theorem mem_gapless (hg : D.gapless = true) (x : Int) : x ∈ D.vals ↔ D.minKey ≤ x ∧ x ≤ D.maxKey := by
  rw [h.gapless_interval hg, mem_interval]

end Derive.WF
end ET
