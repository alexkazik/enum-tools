/-
The dependency propagation as guarded "set these flags" rules (`Config.lean`), executed once in
list order.  Generic facts: flags are only ever added; a flag no rule sets is untouched; if no
rule at or after position i sets rule i's source flag, one pass leaves every rule satisfied; and the
rules whose guard follows syntactically from a condition `G` (`firedUnder`) derive, without looking
at modes or shape, only what the rules derive wherever `G` holds.
-/
import EnumToolsModel.Config
namespace ET

theorem mem_applyRule (m : Modes) (g : Bool) (fl : Flags) (r : Rule) (f : Flag) :
    f ∈ applyRule m g fl r ↔ f ∈ fl ∨ (r.src ∈ fl ∧ guardHolds m g r.guard = true ∧ f ∈ r.sets) := by
  unfold applyRule
  split <;> rename_i hc <;> simp only [Bool.and_eq_true, List.contains_iff_mem] at hc
  · simp only [List.mem_append, List.mem_filter, Bool.not_eq_true', List.contains_eq_mem, decide_eq_false_iff_not, hc, true_and]
    by_cases hf : f ∈ fl <;> simp [hf]
  · exact ⟨Or.inl, fun h => h.elim id fun ⟨h1, h2, _⟩ => absurd ⟨h1, h2⟩ hc⟩

theorem apply_mono (m : Modes) (g : Bool) (fl : Flags) (r : Rule) (f : Flag) (h : f ∈ fl) : f ∈ applyRule m g fl r :=
  (mem_applyRule m g fl r f).mpr (Or.inl h)

theorem run_mono (m : Modes) (g : Bool) (rs : List Rule) : ∀ (fl : Flags) (f : Flag), f ∈ fl → f ∈ runRules rs m g fl :=
  fun _ f h => List.foldlRecOn rs (applyRule m g) (motive := (f ∈ ·)) h fun fl' h' r _ => apply_mono m g fl' r f h'

theorem run_frame (m : Modes) (g : Bool) (rs : List Rule) : ∀ (fl : Flags) (f : Flag), (∀ r ∈ rs, f ∉ r.sets) →
    (f ∈ runRules rs m g fl ↔ f ∈ fl) := by
  intro fl f h
  refine List.foldlRecOn rs (applyRule m g) (motive := fun fl' => f ∈ fl' ↔ f ∈ fl) Iff.rfl fun fl' ih r hr => ?_
  rw [mem_applyRule]
  exact (or_iff_left fun h' => h r hr h'.2.2).trans ih

/-- where a flag of the result comes from -/
theorem run_origin (m : Modes) (g : Bool) (rs : List Rule) : ∀ (fl : Flags) (f : Flag), f ∈ runRules rs m g fl →
    f ∈ fl ∨ ∃ r ∈ rs, f ∈ r.sets ∧ guardHolds m g r.guard = true ∧ r.src ∈ runRules rs m g fl := by
  intro fl f
  -- kept by every step: a flag that is present was there at the start or was set by a rule whose source is present
  refine List.foldlRecOn rs (applyRule m g) (motive := fun fl' => f ∈ fl' →
    f ∈ fl ∨ ∃ r ∈ rs, f ∈ r.sets ∧ guardHolds m g r.guard = true ∧ r.src ∈ fl') Or.inl fun fl' ih r hr hf => ?_
  rcases (mem_applyRule m g fl' r f).mp hf with h1 | ⟨h1, h2, h3⟩
  · exact (ih h1).imp_right fun ⟨r', hr', hs, hg, hsrc⟩ => ⟨r', hr', hs, hg, apply_mono m g fl' r _ hsrc⟩
  · exact Or.inr ⟨r, hr, h3, h2, apply_mono m g fl' r _ h1⟩

/-- a rule is satisfied in a flag set -/
def Sat (m : Modes) (g : Bool) (fl : Flags) (r : Rule) : Prop :=
  r.src ∈ fl → guardHolds m g r.guard = true → ∀ f ∈ r.sets, f ∈ fl

/-- no rule at or after the position of a rule sets that rule's source flag -/
def ordered : List Rule → Bool
  | [] => true
  | r :: rs => (r :: rs).all (fun r' => !r'.sets.contains r.src) && ordered rs

theorem run_sat (m : Modes) (g : Bool) (rs : List Rule) : ∀ (fl : Flags), ordered rs = true → ∀ r ∈ rs, Sat m g (runRules rs m g fl) r := by
  induction rs with
  | nil => intro fl _ r hr; cases hr
  | cons r0 rs ih =>
    intro fl hord r hr
    simp only [ordered, Bool.and_eq_true, List.all_eq_true, Bool.not_eq_true', List.contains_eq_mem, decide_eq_false_iff_not] at hord
    obtain ⟨h0, hrest⟩ := hord
    rcases List.mem_cons.mp hr with rfl | hr'
    · intro hsrc hg f hf
      -- no rule sets the source, so it was enabled from the start and the rule fired
      have hsrc0 : r.src ∈ fl := (run_frame m g (r :: rs) fl r.src h0).mp hsrc
      exact run_mono m g rs _ f ((mem_applyRule m g fl r f).mpr (Or.inr ⟨hsrc0, hg, hf⟩))
    · exact ih _ hrest r hr'

/-- a set of flags in which every rule is satisfied contains the consequences of any of its subsets -/
theorem closed_subset (m : Modes) (g : Bool) (fl : Flags) (rs : List Rule) (hsat : ∀ r ∈ rs, Sat m g fl r) :
    ∀ (S : Flags), (∀ f ∈ S, f ∈ fl) → ∀ f ∈ runRules rs m g S, f ∈ fl := by
  intro S hS
  refine List.foldlRecOn rs (applyRule m g) (motive := fun S' => ∀ f ∈ S', f ∈ fl) hS fun S' ih r hr x hx => ?_
  rcases (mem_applyRule m g S' r x).mp hx with h1 | ⟨h1, h2, h3⟩
  · exact ih x h1
  · exact hsat r hr (ih _ h1) h2 x h3

theorem runRules_nil (m : Modes) (g : Bool) (rs : List Rule) : runRules rs m g [] = [] :=
  List.foldlRecOn rs (applyRule m g) (motive := (· = [])) rfl fun _ h _ _ => by subst h; rfl

theorem abortFires_eq_false (m : Modes) (g : Bool) (fl : Flags) (a : AbortRule) :
    abortFires m g fl a = false ↔
      (a.src ∈ fl → guardHolds m g a.guard = true → ∃ f, a.unlessFlag = some f ∧ f ∈ fl) := by
  unfold abortFires
  cases a.unlessFlag <;> simp

/-! ### rules that fire whenever a given guard holds -/

/-- `a` holds wherever `b` does, as far as the syntax shows: the same atom, or `iterIn` of a longer list -/
def atomImplies (b a : Atom) : Bool :=
  a == b || match b, a with
    | .iterIn xs, .iterIn ys => xs.all ys.contains
    | _, _ => false

theorem atomImplies_sound (m : Modes) (g : Bool) (a b : Atom) (hi : atomImplies b a = true) (hb : b.eval m g = true) :
    a.eval m g = true := by
  unfold atomImplies at hi
  rcases Bool.or_eq_true _ _ ▸ hi with h | h
  · rw [beq_iff_eq.mp h]; exact hb
  · split at h
    · simp only [Atom.eval, List.contains_iff_mem] at hb ⊢
      simpa using List.all_eq_true.mp h _ hb
    · cases h

def guardImplies (G H : List Atom) : Bool := H.all fun a => G.any fun b => atomImplies b a

theorem guardImplies_sound (m : Modes) (g : Bool) (G H : List Atom) (hi : guardImplies G H = true)
    (hG : guardHolds m g G = true) : guardHolds m g H = true := by
  unfold guardImplies at hi
  unfold guardHolds at *
  rw [List.all_eq_true] at *
  intro a ha
  obtain ⟨b, hb, hba⟩ := List.any_eq_true.mp (hi a ha)
  exact atomImplies_sound m g a b hba (hG b hb)

/-- the rules that fire in every mode and shape satisfying `G`, with their guards discharged -/
def firedUnder (G : List Atom) (rs : List Rule) : List Rule :=
  (rs.filter fun r => guardImplies G r.guard).map fun r => { r with guard := [] }

theorem runRules_firedUnder (m : Modes) (g : Bool) (G : List Atom) (hG : guardHolds m g G = true) (m' : Modes) (g' : Bool) :
    ∀ (rs : List Rule) (fl fl' : Flags), (∀ x ∈ fl, x ∈ fl') →
      ∀ x ∈ runRules (firedUnder G rs) m' g' fl, x ∈ runRules rs m g fl' := by
  intro rs
  induction rs with
  | nil => intro fl fl' h x hx; exact h x hx
  | cons r rs ih =>
    intro fl fl' h
    by_cases hr : guardImplies G r.guard = true
    · rw [firedUnder, List.filter_cons, if_pos hr, List.map_cons]
      refine ih _ _ fun x hx => ?_
      rcases (mem_applyRule m' g' fl _ x).mp hx with h1 | ⟨h1, _, h3⟩
      · exact apply_mono m g fl' r x (h x h1)
      · exact (mem_applyRule m g fl' r x).mpr (Or.inr ⟨h _ h1, guardImplies_sound m g G _ hr hG, h3⟩)
    · rw [firedUnder, List.filter_cons, if_neg hr]
      exact ih _ _ fun x hx => apply_mono m g fl' r x (h x hx)

end ET
