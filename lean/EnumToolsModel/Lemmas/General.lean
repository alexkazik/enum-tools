/-
Facts about lists and `if`s that are not about the model.
-/
namespace ET

/-! ### `if` -/

theorem ite_eq_iff {α : Type} {c : Prop} [Decidable c] {a b x : α} :
    (if c then a else b) = x ↔ c ∧ a = x ∨ ¬c ∧ b = x := by
  by_cases h : c <;> simp [h]

theorem ite_error_eq_ok {ε α : Type} {c : Prop} [Decidable c] {e : ε} {r : Except ε α} {x : α} :
    (if c then .error e else r) = .ok x ↔ ¬ c ∧ r = .ok x := by
  by_cases h : c <;> simp [h]

theorem ite_append {α : Type} {c : Prop} [Decidable c] (l x : List α) :
    (if c then l ++ x else l) = l ++ (if c then x else []) := by
  split <;> simp

theorem exists_append_of_append {α : Type} {r errs x : List α} (h : ∃ e, r = errs ++ x ++ e) : ∃ e, r = errs ++ e :=
  h.elim fun e he => ⟨x ++ e, he.trans (List.append_assoc ..)⟩

/-! ### lists sorted by a relation are determined by their members -/

theorem sorted_ext_int (l1 l2 : List Int) (h1 : l1.Pairwise (· < ·)) (h2 : l2.Pairwise (· < ·))
    (hm : ∀ x, x ∈ l1 ↔ x ∈ l2) : l1 = l2 :=
  List.Perm.eq_of_pairwise (fun a b _ _ hab hba => by omega) h1 h2
    ((List.perm_ext_iff_of_nodup (h1.imp Int.ne_of_lt) (h2.imp Int.ne_of_lt)).mpr hm)

theorem pairwise_lt_of_nodup {α : Type} (key : α → Int) {l : List α} (hn : (l.map key).Nodup)
    (h : l.Pairwise (fun a b => key a ≤ key b)) : l.Pairwise (fun a b => key a < key b) :=
  (h.and (List.pairwise_map.mp hn)).imp (fun ⟨h1, h2⟩ => by omega)

theorem sorted_perm_unique {α : Type} (key : α → Int) {l l₁ l₂ : List α} (hn : (l.map key).Nodup)
    (p₁ : l₁.Perm l) (p₂ : l₂.Perm l)
    (h₁ : l₁.Pairwise (fun a b => key a ≤ key b)) (h₂ : l₂.Pairwise (fun a b => key a ≤ key b)) : l₁ = l₂ :=
  List.Perm.eq_of_pairwise (fun a b _ _ hab hba => by omega)
    (pairwise_lt_of_nodup key ((p₁.map key).nodup_iff.mpr hn) h₁)
    (pairwise_lt_of_nodup key ((p₂.map key).nodup_iff.mpr hn) h₂) (p₁.trans p₂.symm)

/-! ### neighbours and positions in a sorted list -/

theorem find_rel_split {α : Type} (R : α → α → Prop) [DecidableRel R] (hasym : ∀ a b, R a b → ¬ R b a)
    {A B : List α} {v : α} (hs : (A ++ v :: B).Pairwise R) :
    (A ++ v :: B).find? (fun y => decide (R v y)) = B.head? := by
  obtain ⟨-, hB, hA⟩ := List.pairwise_append.mp hs
  have hirr : ¬ R v v := fun h => hasym v v h h
  rw [List.find?_append, List.find?_eq_none.mpr fun a ha => by simpa using hasym a v (hA a ha v (List.mem_cons_self ..)),
    Option.none_or, List.find?_cons_of_neg (by simpa using hirr)]
  cases B with
  | nil => rfl
  | cons b B => exact List.find?_cons_of_pos (by simpa using (List.pairwise_cons.mp hB).1 b (List.mem_cons_self ..))

theorem find_gt_split {A B : List Int} {v : Int} (hs : (A ++ v :: B).Pairwise (· < ·)) :
    (A ++ v :: B).find? (fun y => decide (v < y)) = B.head? :=
  find_rel_split (· < ·) (fun _ _ h => by omega) hs

/-- the mirror image: the reversed list is sorted by `>` -/
theorem rfind_lt_split {A B : List Int} {v : Int} (hs : (A ++ v :: B).Pairwise (· < ·)) :
    (A ++ v :: B).reverse.find? (fun y => decide (y < v)) = A.getLast? := by
  have hr : (B.reverse ++ v :: A.reverse).Pairwise (fun a b => b < a) := by
    simpa using List.pairwise_reverse.mpr hs
  rw [List.reverse_append, List.reverse_cons, List.append_assoc, List.singleton_append,
    find_rel_split (fun a b : Int => b < a) (fun _ _ h => by omega) hr, List.head?_reverse]

theorem find?_key_le {α : Type} (key : α → Int) {p : α → Bool} {l : List α} (hs : l.Pairwise (fun a b => key a < key b))
    {q : α} (hq : l.find? p = some q) : ∀ x ∈ l, p x = true → key q ≤ key x := by
  obtain ⟨-, as, bs, rfl, has⟩ := List.find?_eq_some_iff_append.mp hq
  intro x hx hpx
  -- `x` is not before `q` (nothing there satisfies `p`); after `q` the keys are larger
  rcases List.mem_append.mp hx with hxa | hxb
  · exact absurd hpx (by simpa using has x hxa)
  · rcases List.mem_cons.mp hxb with rfl | hxb
    · exact Int.le_refl _
    · exact Int.le_of_lt ((List.pairwise_cons.mp (List.pairwise_append.mp hs).2.1).1 x hxb)

theorem take_getElem_drop {α : Type} (l : List α) (i : Nat) (hi : i < l.length) :
    l.take i ++ l[i] :: l.drop (i + 1) = l := by
  rw [← List.drop_eq_getElem_cons hi, List.take_append_drop]

theorem sorted_getElem_le_iff {l : List Int} (hs : l.Pairwise (· < ·)) {i j : Nat} (hi : i < l.length) (hj : j < l.length) :
    l[i] ≤ l[j] ↔ i ≤ j := by
  have h := List.pairwise_iff_getElem.mp hs
  refine ⟨fun hle => Nat.not_lt.mp fun hji => ?_, fun hij => ?_⟩
  · have := h j i hj hi hji; omega
  · rcases Nat.lt_or_eq_of_le hij with hlt | rfl
    · exact Int.le_of_lt (h i j hi hj hlt)
    · exact Int.le_refl _

theorem sorted_length_le (l : List Int) (hs : l.Pairwise (· < ·)) (lo hi : Int) (hr : ∀ x ∈ l, lo ≤ x ∧ x ≤ hi) :
    (l.length : Int) ≤ max 0 (hi - lo + 1) := by
  induction l generalizing lo with
  | nil => exact Int.le_max_left 0 _
  | cons a t ih =>
    have hp := List.pairwise_cons.mp hs
    have ha := hr a (by simp)
    have := ih hp.2 (a + 1) (fun x hx => ⟨by have := hp.1 x hx; omega, (hr x (by simp [hx])).2⟩)
    simp only [List.length_cons]
    omega

/-- on an ascending list, the filter of `[a, b]` is the filter of `[a, m]` followed by that of `[m+1, b]` -/
theorem filter_split (a m b : Int) (ha : a ≤ m + 1) (hb : m ≤ b) : ∀ (l : List Int), l.Pairwise (· < ·) →
    l.filter (fun v => decide (a ≤ v) && decide (v ≤ b))
      = l.filter (fun v => decide (a ≤ v) && decide (v ≤ m)) ++ l.filter (fun v => decide (m + 1 ≤ v) && decide (v ≤ b)) := by
  intro l hp
  apply sorted_ext_int
  · exact hp.filter _
  · refine List.pairwise_append.mpr ⟨hp.filter _, hp.filter _, fun x hx y hy => ?_⟩
    simp only [List.mem_filter, Bool.and_eq_true, decide_eq_true_eq] at hx hy
    omega
  · intro x
    simp only [List.mem_append, List.mem_filter, Bool.and_eq_true, decide_eq_true_eq, ← and_or_left]
    exact and_congr_right fun _ => by omega

/-! ### lists of keyed entries -/

theorem mem_keys_cons {κ β : Type} (k : κ) (a : κ × β) (t : List (κ × β)) :
    k ∈ (a :: t).map (·.1) ↔ a.1 = k ∨ k ∈ t.map (·.1) := by
  rw [List.map_cons, List.mem_cons, eq_comm]

theorem find_of_mem {α β : Type} [DecidableEq β] (f : α → β) (l : List α) (hd : (l.map f).Pairwise (· ≠ ·))
    (x : α) (hx : x ∈ l) : l.find? (fun y => decide (f y = f x)) = some x := by
  obtain ⟨s, t, rfl⟩ := List.append_of_mem hx
  rw [List.map_append] at hd
  exact List.find?_eq_some_iff_append.mpr ⟨by simp, s, t, rfl, fun a ha => by
    simpa using hd.rel_of_mem_append (List.mem_map_of_mem ha) (List.mem_map_of_mem (List.mem_cons_self ..))⟩

end ET
