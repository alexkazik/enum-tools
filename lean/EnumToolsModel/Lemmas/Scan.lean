/-
`transmute`, the run-table scans of `try_from` / `TryFrom`, and the table loops of `from_str` / `FromStr`.
-/
import EnumToolsModel.Lemmas.WF
namespace ET

theorem transmute_of_mem (D : Derive) (x : Int) (h : x ∈ D.vals) : transmute D x = .ok x := by
  simp [transmute, h]

theorem mapTransmute_ok (D : Derive) (l : List Int) (h : ∀ x ∈ l, x ∈ D.vals) : mapTransmute D l = .ok l := by
  induction l with
  | nil => rfl
  | cons x rest ih =>
    rw [List.forall_mem_cons] at h
    simp only [mapTransmute, transmute_of_mem D x h.1, Res.bind_ok, ih h.2]

theorem tryFromScan_eq (D : Derive) (v : Int) (tbl : List RangeEntry) :
    tryFromScan D v tbl = if v ∈ expandT tbl then (transmute D v).bind (fun e => .ok (some e)) else .ok none := by
  induction tbl with
  | nil => simp [tryFromScan, expandT]
  | cons r rest ih =>
    rw [tryFromScan, ih]
    simp only [expandT_cons, List.mem_append, mem_interval, ← r.contains_iff]
    by_cases hc : r.contains v = true <;> simp [hc]

theorem tryFromTraitScan_eq (D : Derive) (v : Int) (tbl : List RangeEntry) :
    tryFromTraitScan D v tbl = tryFromScan D v tbl := by
  induction tbl with
  | nil => rfl
  | cons r rest ih => simp [tryFromTraitScan, tryFromScan, ih]

theorem tryFromTrait_eq_fn (D : Derive) (n : Int) : tryFromTrait D n = tryFromFn D n := by
  unfold tryFromTrait tryFromFn tryFromTraitGapless tryFromGapless tryFromTraitHoles tryFromHoles
  simp only [tryFromTraitScan_eq]

/-! ### from_str / FromStr -/

/-- the gapless table loop turns the index `i` back into the discriminant `MIN + i`: what is left of
the values when the counter is `i` carries the discriminants from `MIN + i` to `MAX` -/
theorem fromStrTableGaplessLoop_eq (D : Derive) (h : D.WF) (hg : D.gapless = true) (s : Name) :
    ∀ (vs : List (Int × (Name × Name))) (i : Nat), vs.map (·.1) = interval (D.minKey + i) D.maxKey →
      fromStrTableGaplessLoop D s i (vs.map (·.2.2)) = .ok ((vs.find? (·.2.2 = s)).map (·.1)) := by
  intro vs
  induction vs with
  | nil => intro i _; rfl
  | cons x rest ih =>
    intro i hkeys
    have hle : D.minKey + i ≤ D.maxKey := Int.not_lt.mp fun hlt => by
      rw [interval_empty _ _ hlt] at hkeys
      cases hkeys
    rw [interval_cons _ _ hle, List.map_cons, List.cons.injEq] at hkeys
    obtain ⟨hx, hrest⟩ := hkeys
    have hm : x.1 ∈ D.vals := (h.mem_gapless hg _).mpr ⟨by omega, by omega⟩
    simp only [List.map_cons, fromStrTableGaplessLoop, List.find?_cons]
    by_cases hs : s = x.2.2
    · have hw : D.repr.wrap (D.repr.wrap i + minC D) = x.1 := by
        rw [minC, Prim.wrap_wrap_add _ h.bits_pos _ _ (hx ▸ h.inRange _ hm), hx]
      simp [hs, hw, transmute_of_mem D _ hm]
    · simp only [hs, Ne.symm hs, if_false, decide_false]
      exact ih (i + 1) (by rw [hrest]; congr 1; omega)

theorem fromStrTableHolesLoop_eq (s : Name) (l : List (Int × Name)) :
    fromStrTableHolesLoop s l = .ok ((l.find? (fun x => decide (x.2 = s))).map (·.1)) := by
  induction l with
  | nil => rfl
  | cons x rest ih =>
    rw [fromStrTableHolesLoop, ih, List.find?_cons]
    by_cases hs : x.2 = s
    · simp [hs]
    · simp [hs, Ne.symm hs]

/-- `__ENUM.iter().zip(__NAME.iter())` is the specification's item list -/
theorem Derive.zip_tables (D : Derive) : (tableEnum D).zip (tableName D) = D.sem.items := by
  simp [tableEnum, tableName, Derive.vals, Derive.names, Derive.sem, List.zip_map']

end ET
