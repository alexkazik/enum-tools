/-
`sorted(name)` / `sorted(value)`: the run with the checks switched on and the run without proceed in
lock step; the former demands in addition that names / discriminants ascend from one variant to the next.
-/
import EnumToolsModel.Lemmas.ParseValues
namespace ET.Thm

/-- consecutive elements strictly ascending (the first argument is the element before the list, if any) -/
def AscFrom {α : Type} (lt : α → α → Prop) : Option α → List α → Prop
  | _, [] => True
  | none, x :: xs => AscFrom lt (some x) xs
  | some p, x :: xs => lt p x ∧ AscFrom lt (some x) xs

theorem AscFrom_cons {α : Type} (lt : α → α → Prop) (p : Option α) (x : α) (xs : List α) :
    AscFrom lt p (x :: xs) ↔ (∀ q, p = some q → lt q x) ∧ AscFrom lt (some x) xs := by
  cases p <;> simp [AscFrom]

theorem AscFrom.pairwise {p : Option Int} {l : List Int} (h : AscFrom (· < ·) p l) :
    l.Pairwise (· < ·) ∧ ∀ q, p = some q → ∀ y ∈ l, q < y := by
  induction l generalizing p with
  | nil => exact ⟨.nil, fun _ _ _ hy => nomatch hy⟩
  | cons y ys ih =>
    obtain ⟨hy, htail⟩ := (AscFrom_cons _ p y ys).mp h
    obtain ⟨h1, h2⟩ := ih htail
    refine ⟨List.pairwise_cons.mpr ⟨h2 y rfl, h1⟩, fun q hq z hz => ?_⟩
    rcases List.mem_cons.mp hz with rfl | e
    · exact hy q hq
    · exact Int.lt_trans (hy q hq) (h2 y rfl z e)

/-- the name check of one iteration, and what it hands on to the next, are one link of the chain -/
theorem nameSort_step (n vb : Bool) (ln : Option Name) (name : Name) (names : List Name) :
    (nameSortErrs ⟨n, vb⟩ ln name = [] ∧ (n = true → AscFrom (· < ·) (nextLastName ⟨n, vb⟩ ln name) names)) ↔
      (n = true → AscFrom (· < ·) ln (name :: names)) := by
  cases n with
  | false => simp [nameSortErrs]
  | true =>
    rw [AscFrom_cons]
    cases ln with
    | none => simp [nameSortErrs, nextLastName]
    | some p => simp [nameSortErrs, nextLastName]

theorem valueSortErrs_eq_nil (s : Sorted) (st : PV) (i : Int) :
    valueSortErrs s st i = [] ↔ (s.value = true → st.values ≠ [] → st.last ≤ i) := by
  unfold valueSortErrs
  simp [List.isEmpty_iff]

/-- the value check is only made for explicit discriminants, an implicit one is `last + 1`; together
with freshness the check says `last < i` -/
theorem valueSort_check_iff_lt (n vb : Bool) (st : PV) (v : Variant) (i : Int) (hsd : StepDisc st.last v i)
    (hfresh : i ∉ st.values.map (·.1)) (hlast : st.values ≠ [] → st.last ∈ st.values.map (·.1)) :
    (v.disc.isSome = true → valueSortErrs ⟨n, vb⟩ st i = []) ↔ (vb = true → st.values ≠ [] → st.last < i) := by
  rw [valueSortErrs_eq_nil]
  constructor
  · intro h hvb hv
    have hne : i ≠ st.last := fun e => hfresh (e ▸ hlast hv)
    cases hd : v.disc with
    | none => have := (StepDisc_none hd).mp hsd; omega
    | some d => have := h (by simp [hd]) hvb hv; omega
  · intro h _ hvb hv
    have := h hvb hv
    omega

theorem valueSort_step (n vb : Bool) (st : PV) (v : Variant) (i : Int) (ds : List Int) (hsd : StepDisc st.last v i)
    (hfresh : i ∉ st.values.map (·.1)) (hlast : st.values ≠ [] → st.last ∈ st.values.map (·.1)) :
    ((v.disc.isSome = true → valueSortErrs ⟨n, vb⟩ st i = []) ∧ (vb = true → AscFrom (· < ·) (some i) ds)) ↔
      (vb = true → AscFrom (· < ·) (if st.values = [] then none else some st.last) (i :: ds)) := by
  rw [valueSort_check_iff_lt n vb st v i hsd hfresh hlast, AscFrom_cons]
  simp [imp_and]

/-- the sorted run and the unsorted run proceed in lock step; the sorted one additionally demands
ascending names / discriminants -/
theorem clean_sorted_iff (n vb : Bool) : ∀ (vs : List Variant) (st stU : PV),
    st.values = stU.values → st.last = stU.last →
    (st.values ≠ [] → st.last ∈ st.values.map (·.1)) →
    ∀ (l : List (Int × Name)), rustcDiscs (st.last + 1) vs = some l →
    ((∃ st', CleanFrom ⟨n, vb⟩ st vs st') ↔
      ((∃ stU', CleanFrom {} stU vs stU') ∧
        (n = true → AscFrom (· < ·) st.lastName (vs.map (·.name))) ∧
        (vb = true → AscFrom (· < ·) (if st.values = [] then none else some st.last) (l.map (·.1))))) := by
  intro vs
  induction vs with
  | nil =>
    intro st stU _ _ _ l hl
    cases hl
    simp [CleanFrom, AscFrom]
  | cons v rest ih =>
    intro st stU hcv hcl hlast l hl
    -- once the discriminant `i` of `v` is fixed, what remains of the two sides corresponds part by part
    have step : ∀ i, StepDisc st.last v i → i ∉ st.values.map (·.1) →
        (((∃ st', CleanFrom ⟨n, vb⟩ (st.push ⟨n, vb⟩ v i) rest st') ∧ nameSortErrs ⟨n, vb⟩ st.lastName v.name = [] ∧
            (v.disc.isSome = true → valueSortErrs ⟨n, vb⟩ st i = [])) ↔
          ((∃ stU', CleanFrom {} (stU.push {} v i) rest stU') ∧
            (n = true → AscFrom (· < ·) st.lastName ((v :: rest).map (·.name))) ∧
            (vb = true → AscFrom (· < ·) (if st.values = [] then none else some st.last) (l.map (·.1))))) := by
      intro i hsd hfresh
      rw [rustcDiscs_cons hsd, Option.map_eq_some_iff] at hl
      obtain ⟨l', hl', rfl⟩ := hl
      rw [ih (st.push ⟨n, vb⟩ v i) (stU.push {} v i) (congrArg (· ++ _) hcv) rfl (fun _ => (PV.mem_push _ st v i i).mpr (.inr rfl)) l' hl',
        List.map_cons, List.map_cons, ← nameSort_step, ← valueSort_step n vb st v i _ hsd hfresh hlast]
      have hne : (st.push ⟨n, vb⟩ v i).values ≠ [] := by simp [PV.push]
      simp only [hne, if_false]
      -- the same conjuncts in another order
      exact Iff.of_eq (by ac_rfl)
    constructor
    · rintro ⟨st', ha, hf, hn, i, hsd, hv, hfresh, hrest⟩
      obtain ⟨⟨stU', hU⟩, hN, hV⟩ := (step i hsd hfresh).mp ⟨⟨st', hrest⟩, hn, hv⟩
      exact ⟨⟨stU', ha, hf, rfl, i, hcl ▸ hsd, fun _ => rfl, hcv ▸ hfresh, hU⟩, hN, hV⟩
    · rintro ⟨⟨stU', ha, hf, _, i, hsd, _, hfresh, hrest⟩, hN, hV⟩
      rw [← hcl] at hsd
      rw [← hcv] at hfresh
      obtain ⟨⟨st', hR⟩, hn, hv⟩ := (step i hsd hfresh).mpr ⟨⟨stU', hrest⟩, hN, hV⟩
      exact ⟨st', ha, hf, hn, i, hsd, hv, hfresh, hR⟩

end ET.Thm
