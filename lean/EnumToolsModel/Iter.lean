/-
Iterator operations.  `Cursor` is the specification: a double-ended exact-size fused iterator over
a list.  `IterState.step`/`finish` is the generated struct: forwarding modes delegate to a std
iterator (trusted to be a cursor over the list it was built from); `next_and_back` is the
hand-written three-field state machine of `iter/next_and_back.rs:61-98`, with `core`'s default
methods (`nth`, `nth_back`, `fold`, `rfold`, `last`, `count`, `collect`, `rev`) derived from
`next`/`next_back` the way `core` defines them.
-/
import EnumToolsModel.Gen
namespace ET

inductive Op where
  | next | nextBack | nth (k : Nat) | nthBack (k : Nat) | len | sizeHint
deriving Repr, DecidableEq, Inhabited

inductive Fin where
  | fold | rfold | last | count | collect | revCollect
deriving Repr, DecidableEq, Inhabited

inductive Out (α : Type) where
  | item (o : Option α)
  | len (n : Nat)
  | hint (lo : Nat) (hi : Option Nat)
deriving Repr, DecidableEq, Inhabited

inductive OutF (α : Type) where
  | list (l : List α)
  | item (o : Option α)
  | count (n : Nat)
deriving Repr, DecidableEq, Inhabited

/-! ### specification: cursor over a list -/
namespace Cursor

def step {α} (l : List α) : Op → List α × Out α
  | .next => (l.tail, .item l.head?)
  | .nextBack => (l.dropLast, .item l.getLast?)
  | .nth k => (l.drop (k + 1), .item (l.drop k).head?)
  | .nthBack k => ((l.reverse.drop (k + 1)).reverse, .item (l.reverse.drop k).head?)
  | .len => (l, .len l.length)
  | .sizeHint => (l, .hint l.length (some l.length))

def finish {α} (l : List α) : Fin → OutF α
  | .fold => .list l
  | .rfold => .list l.reverse
  | .last => .item l.getLast?
  | .count => .count l.length
  | .collect => .list l
  | .revCollect => .list l.reverse

def run {α} : List α → List Op → List α × List (Out α)
  | l, [] => (l, [])
  | l, op :: ops =>
    let (l', o) := step l op
    let (l'', os) := run l' ops
    (l'', o :: os)

end Cursor

/-! ### the `next_and_back` state machine -/
section NB
variable {α : Type} (nf bf : α → Res (Option α))

/-- `Iterator::next` of `next_and_back` (`iter/next_and_back.rs:61-71`) -/
def nbNext (fwd bwd : Option α) (len : Nat) : Res (Option α × IterState α) :=
  if len = 0 then .ok (none, .nb fwd bwd len)
  else
    (match fwd with
      | none => (.ok none : Res (Option α))
      | some x => nf x).bind fun fwd' => .ok (fwd, .nb fwd' bwd (len - 1))

/-- `DoubleEndedIterator::next_back` (`iter/next_and_back.rs:81-91`) -/
def nbNextBack (fwd bwd : Option α) (len : Nat) : Res (Option α × IterState α) :=
  if len = 0 then .ok (none, .nb fwd bwd len)
  else
    (match bwd with
      | none => (.ok none : Res (Option α))
      | some x => bf x).bind fun bwd' => .ok (bwd, .nb fwd bwd' (len - 1))

/-- `core`'s default `nth`: `advance_by(n)` by repeated `next`, stop at the first `None` -/
def nbNth : Nat → Option α → Option α → Nat → Res (Option α × IterState α)
  | 0, fwd, bwd, len => nbNext nf fwd bwd len
  | k + 1, fwd, bwd, len =>
    (nbNext nf fwd bwd len).bind fun (r, s) =>
      match r, s with
      | some _, .nb fwd' bwd' len' => nbNth k fwd' bwd' len'
      | _, s => .ok (none, s)

def nbNthBack : Nat → Option α → Option α → Nat → Res (Option α × IterState α)
  | 0, fwd, bwd, len => nbNextBack bf fwd bwd len
  | k + 1, fwd, bwd, len =>
    (nbNextBack bf fwd bwd len).bind fun (r, s) =>
      match r, s with
      | some _, .nb fwd' bwd' len' => nbNthBack k fwd' bwd' len'
      | _, s => .ok (none, s)

/-- `while let Some(x) = self.next() { … }`, collecting what is yielded -/
def nbDrain : Nat → Option α → Res (List α)
  | 0, _ => .ok []
  | _ + 1, none => .ok []
  | len + 1, some x => (nf x).bind fun fwd' => (nbDrain len fwd').bind fun rest => .ok (x :: rest)

/-- `while let Some(x) = self.next_back() { … }` -/
def nbDrainBack : Nat → Option α → Res (List α)
  | 0, _ => .ok []
  | _ + 1, none => .ok []
  | len + 1, some x => (bf x).bind fun bwd' => (nbDrainBack len bwd').bind fun rest => .ok (x :: rest)

end NB

/-- one operation on a generated iterator -/
def IterState.step {α} (nf bf : α → Res (Option α)) : IterState α → Op → Res (IterState α × Out α)
  | .cursor l, op => let (l', o) := Cursor.step l op; .ok (.cursor l', o)
  | .nb fwd bwd len, .next => (nbNext nf fwd bwd len).bind fun (r, s) => .ok (s, .item r)
  | .nb fwd bwd len, .nextBack => (nbNextBack bf fwd bwd len).bind fun (r, s) => .ok (s, .item r)
  | .nb fwd bwd len, .nth k => (nbNth nf k fwd bwd len).bind fun (r, s) => .ok (s, .item r)
  | .nb fwd bwd len, .nthBack k => (nbNthBack bf k fwd bwd len).bind fun (r, s) => .ok (s, .item r)
  | .nb fwd bwd len, .len => .ok (.nb fwd bwd len, .len len)
  | .nb fwd bwd len, .sizeHint => .ok (.nb fwd bwd len, .hint len (some len))

/-- a consuming operation -/
def IterState.finish {α} (nf bf : α → Res (Option α)) : IterState α → Fin → Res (OutF α)
  | .cursor l, f => .ok (Cursor.finish l f)
  | .nb fwd _ len, .fold => (nbDrain nf len fwd).bind fun l => .ok (.list l)
  | .nb fwd _ len, .collect => (nbDrain nf len fwd).bind fun l => .ok (.list l)
  | .nb fwd _ len, .last => (nbDrain nf len fwd).bind fun l => .ok (.item l.getLast?)
  | .nb fwd _ len, .count => (nbDrain nf len fwd).bind fun l => .ok (.count l.length)
  | .nb _ bwd len, .rfold => (nbDrainBack bf len bwd).bind fun l => .ok (.list l)
  | .nb _ bwd len, .revCollect => (nbDrainBack bf len bwd).bind fun l => .ok (.list l)

def IterState.run {α} (nf bf : α → Res (Option α)) : IterState α → List Op → Res (IterState α × List (Out α))
  | s, [] => .ok (s, [])
  | s, op :: ops =>
    (IterState.step nf bf s op).bind fun (s', o) =>
      (IterState.run nf bf s' ops).bind fun (s'', os) => .ok (s'', o :: os)

end ET
