import EnumToolsModel.Basic
import EnumToolsModel.Config
import EnumToolsModel.Decl
import EnumToolsModel.DriverLib
import EnumToolsModel.Findings
import EnumToolsModel.Gen
import EnumToolsModel.Iter
import EnumToolsModel.Macro
import EnumToolsModel.Parse
import EnumToolsModel.Rust
import EnumToolsModel.Spec
import EnumToolsModel.TRun
import EnumToolsModel.Generated.Catalog
import EnumToolsModel.Generated.Docs
import EnumToolsModel.Generated.HashSites
import EnumToolsModel.Generated.Inventory
import EnumToolsModel.Generated.ReprTable
import EnumToolsModel.Generated.Resolve
import EnumToolsModel.Generated.Templates
import EnumToolsModel.Generated.Uses
import EnumToolsModel.Lemmas.Arith
import EnumToolsModel.Lemmas.C10Aux
import EnumToolsModel.Lemmas.C13Aux
import EnumToolsModel.Lemmas.C14Aux
import EnumToolsModel.Lemmas.Examples
import EnumToolsModel.Lemmas.Expand
import EnumToolsModel.Lemmas.General
import EnumToolsModel.Lemmas.Horn
import EnumToolsModel.Lemmas.Index
import EnumToolsModel.Lemmas.IterSim
import EnumToolsModel.Lemmas.Next
import EnumToolsModel.Lemmas.ParseValues
import EnumToolsModel.Lemmas.Range
import EnumToolsModel.Lemmas.ReprTableEq
import EnumToolsModel.Lemmas.Resolve
import EnumToolsModel.Lemmas.Runs
import EnumToolsModel.Lemmas.Scan
import EnumToolsModel.Lemmas.SortKey
import EnumToolsModel.Lemmas.TemplatesEq
import EnumToolsModel.Lemmas.TemplatesRun
import EnumToolsModel.Lemmas.WF
import EnumToolsModel.Thm.C01
import EnumToolsModel.Thm.C02
import EnumToolsModel.Thm.C03
import EnumToolsModel.Thm.C04
import EnumToolsModel.Thm.C05
import EnumToolsModel.Thm.C06
import EnumToolsModel.Thm.C07
import EnumToolsModel.Thm.C08
import EnumToolsModel.Thm.C09
import EnumToolsModel.Thm.C10
import EnumToolsModel.Thm.C11
import EnumToolsModel.Thm.C12
import EnumToolsModel.Thm.C13
import EnumToolsModel.Thm.C14
import EnumToolsModel.Thm.C15
import EnumToolsModel.Thm.C16
import EnumToolsModel.Thm.C17
import EnumToolsModel.Thm.C18
import EnumToolsModel.Thm.C19
